/-
`batch` on a non-empty list of length `D·b` is `chunks b D` (`batch_view`); gathering the mapped device slices gives the
mapped rows back (`allGather_deviceSlice`); `unbatch` of rows of one width is `flatten`, in both of its branches
(`unbatch_uniform`). Everything about `pmapAll` / `shardedCompute` is these three (`gather_batch`). Core Lean only.
-/
import PrecondVerif.Model.Devices

namespace PrecondVerif.Devices

variable {α β γ δ : Type}

theorem toPad_eq_zero_of_mod (n D : Nat) (h : n % D = 0) : toPad n D = 0 := by
  unfold toPad
  rw [h, Nat.sub_zero, Nat.mod_self]

theorem toPad_of_mod_ne (n D : Nat) (hD : 1 ≤ D) (h : n % D ≠ 0) : toPad n D = D - n % D :=
  Nat.mod_eq_of_lt (Nat.sub_lt (Nat.lt_of_succ_le hD) (Nat.pos_of_ne_zero h))

theorem toPad_add_mod (n D : Nat) (hD : 1 ≤ D) : (n + toPad n D) % D = 0 := by
  rw [toPad, Nat.add_mod_mod, ← Nat.mod_add_mod,
    Nat.add_sub_cancel' (Nat.le_of_lt (Nat.mod_lt n (Nat.lt_of_succ_le hD))), Nat.mod_self]

theorem dvd_add_toPad (n D : Nat) (hD : 1 ≤ D) : D ∣ n + toPad n D :=
  Nat.dvd_of_mod_eq_zero (toPad_add_mod n D hD)

theorem chunks_length (b m : Nat) (xs : List α) : (chunks b m xs).length = m := by
  induction m generalizing xs with
  | zero => rfl
  | succ m ih => simp [chunks, ih]

theorem chunks_flatten (b m : Nat) (xs : List α) : (chunks b m xs).flatten = xs.take (m * b) := by
  induction m generalizing xs with
  | zero => simp [chunks]
  | succ m ih =>
    rw [chunks, List.flatten_cons, ih, Nat.succ_mul, Nat.add_comm (m * b) b, List.take_add]

theorem chunks_flatten_of_length (b m : Nat) (xs : List α) (h : xs.length = m * b) :
    (chunks b m xs).flatten = xs := by
  rw [chunks_flatten, List.take_of_length_le (Nat.le_of_eq h)]

theorem chunks_row_length (b m : Nat) (xs : List α) (h : xs.length = m * b) :
    ∀ r ∈ chunks b m xs, r.length = b := by
  induction m generalizing xs with
  | zero =>
    intro r hr
    simp [chunks] at hr
  | succ m ih =>
    intro r hr
    rw [chunks, List.mem_cons] at hr
    have hl : xs.length = m * b + b := by rw [h, Nat.succ_mul]
    rcases hr with rfl | hr
    · rw [List.length_take, hl]
      exact Nat.min_eq_left (Nat.le_add_left b _)
    · exact ih (xs.drop b) (by rw [List.length_drop, hl, Nat.add_sub_cancel]) r hr

theorem chunks_map (f : α → β) (b m : Nat) (xs : List α) :
    (chunks b m xs).map (List.map f) = chunks b m (xs.map f) := by
  induction m generalizing xs with
  | zero => rfl
  | succ m ih => rw [chunks, chunks, List.map_cons, ih, List.map_take, List.map_drop]

/-- Python's explicit slices: row `k` is `x[k*b : k*b + b]`. -/
theorem chunks_getD (b m : Nat) (xs : List α) (k : Nat) (hk : k < m) :
    (chunks b m xs).getD k [] = (xs.drop (k * b)).take b := by
  induction m generalizing xs k with
  | zero => omega
  | succ m ih =>
    cases k with
    | zero => simp [chunks]
    | succ k =>
      rw [chunks, List.getD_cons_succ, ih (xs.drop b) k (by omega), List.drop_drop, Nat.succ_mul,
        Nat.add_comm]

theorem rangeCount_mul (D b : Nat) (hb : 0 < b) : rangeCount (D * b) b = D := by
  unfold rangeCount
  rw [Nat.add_sub_assoc hb, Nat.mul_comm, Nat.mul_add_div hb, Nat.div_eq_of_lt (Nat.sub_lt hb Nat.one_pos),
    Nat.add_zero]

/-- the only case the callers reach: on a non-empty list whose length is a multiple of `D`, `batch` cuts
`D` rows of width `b = n / D ≥ 1` -/
theorem batch_view (xs : List α) (D : Nat) (hD : 1 ≤ D) (hdvd : D ∣ xs.length) (hne : xs ≠ []) :
    ∃ b, 0 < b ∧ xs.length = D * b ∧ xs.length / D = b ∧ batch xs D = chunks b D xs := by
  obtain ⟨b, hl⟩ := hdvd
  have hb : 0 < b :=
    Nat.pos_of_ne_zero fun h0 => hne (List.length_eq_zero_iff.mp (hl.trans (h0 ▸ Nat.mul_zero D)))
  have hq : xs.length / D = b := by rw [hl, Nat.mul_div_cancel_left _ (Nat.lt_of_succ_le hD)]
  refine ⟨b, hb, hl, hq, ?_⟩
  unfold batch
  simp only [hq]
  rw [if_neg (Nat.ne_of_gt hb), hl, rangeCount_mul D b hb]

theorem allGather_length (D : Nat) (g : Nat → β) : (allGather D g).length = D := by
  simp [allGather]

theorem allGather_one (g : Nat → β) : allGather 1 g = [g 0] := rfl

theorem allGather_deviceSlice (f : α → β) (rows : List (List α)) (D : Nat) (h : rows.length = D) :
    (allGather D fun d => (deviceSlice rows d).map f) = rows.map (List.map f) := by
  apply List.ext_getElem
  · simp [allGather, h]
  · intro i h1 h2
    have hi : i < rows.length := by simpa using h2
    simp [allGather, deviceSlice, List.getElem?_eq_getElem hi]

theorem rowWidth_map (g : α → β) (rows : List (List α)) :
    rowWidth (rows.map (List.map g)) = rowWidth rows := by
  cases rows with
  | nil => rfl
  | cons r rs => simp [rowWidth]

theorem unbatch_map (g : α → β) (rows : List (List α)) :
    unbatch (rows.map (List.map g)) = (unbatch rows).map g := by
  unfold unbatch
  rw [rowWidth_map]
  split
  · rw [List.map_flatten]
  · rw [List.flatMap_map, List.map_flatMap]
    simp only [List.map_take]

theorem unbatch_uniform (rows : List (List α)) (b : Nat) (hb : 0 < b) (h : ∀ r ∈ rows, r.length = b) :
    unbatch rows = rows.flatten := by
  unfold unbatch
  split
  · rfl
  · rename_i hw
    cases rows with
    | nil => rfl
    | cons r rs =>
      have hr : r.length = b := h r List.mem_cons_self
      -- `b2 ≤ 1` is the width `b` of the first row, and `b ≥ 1`: the `b2 = 1` branch sees rows of one entry
      have hb1 : b = 1 := by
        simp only [rowWidth] at hw
        omega
      subst hb1
      rw [List.flatMap_def, List.map_congr_left fun r hr => List.take_of_length_le (Nat.le_of_eq (h r hr)),
        List.map_id']

theorem gather_batch (f : α → β) (ys : List α) (D : Nat) (hD : 1 ≤ D) (hdvd : D ∣ ys.length) (hne : ys ≠ []) :
    ∃ b, 0 < b ∧ (ys.map f).length = D * b ∧
      (allGather D fun d => (deviceSlice (batch ys D) d).map f) = chunks b D (ys.map f) := by
  obtain ⟨b, hb, hl, _, hbatch⟩ := batch_view ys D hD hdvd hne
  exact ⟨b, hb, by rw [List.length_map, hl],
    by rw [hbatch, allGather_deviceSlice f _ D (chunks_length b D ys), chunks_map]⟩

theorem flatten_gather_batch (f : α → β) (ys : List α) (D : Nat) (hD : 1 ≤ D)
    (hdvd : D ∣ ys.length) (hne : ys ≠ []) :
    (allGather D fun d => (deviceSlice (batch ys D) d).map f).flatten = ys.map f := by
  obtain ⟨b, _, hl, hg⟩ := gather_batch f ys D hD hdvd hne
  rw [hg, chunks_flatten_of_length b D _ hl]

theorem unbatch_gather_batch (f : α → β) (ys : List α) (D : Nat) (hD : 1 ≤ D)
    (hdvd : D ∣ ys.length) (hne : ys ≠ []) :
    unbatch (allGather D fun d => (deviceSlice (batch ys D) d).map f) = ys.map f := by
  obtain ⟨b, hb, hl, hg⟩ := gather_batch f ys D hD hdvd hne
  rw [hg, unbatch_uniform _ b hb (chunks_row_length b D _ hl), chunks_flatten_of_length b D _ hl]

theorem take_map_padTo (f : α → β) (filler : α) (xs : List α) (D : Nat) :
    ((padTo filler xs D).map f).take xs.length = xs.map f := by
  rw [padTo, List.map_append, List.take_left' (List.length_map f)]

theorem pmapAll_eq (f : α → β) (filler : α) (D : Nat) (xs : List α) (hD : 1 ≤ D) (hne : xs ≠ []) :
    pmapAll f filler D xs = (padTo filler xs D).map f := by
  unfold pmapAll pmapGathered
  refine unbatch_gather_batch f _ D hD ?_ (fun h => hne (List.append_eq_nil_iff.mp h).1)
  rw [padTo, List.length_append, List.length_replicate]
  exact dvd_add_toPad _ _ hD

theorem zip3_proj (l : List (β × γ × δ)) :
    (l.map fun r => r.1).zip ((l.map fun r => r.2.1).zip (l.map fun r => r.2.2)) = l := by
  rw [List.zip_map', List.zip_map']
  exact List.map_id' l

theorem pmapComputeQ_eq_pmapCompute (f : α → β × γ × δ) (filler : α) (D : Nat) (xs : List α) :
    pmapComputeQ f filler D xs = pmapCompute f filler D xs := by
  unfold pmapComputeQ pmapCompute pmapAll
  simp only [unbatch_map, zip3_proj]

/-- a tree without statistics gets `D` fillers -/
theorem shardedToPad_pos_of_nil (D : Nat) : shardedToPad 0 D = D := by simp [shardedToPad]

theorem shardedPad_length (filler : α) (xs : List α) (D : Nat) :
    (shardedPad filler xs D).length = xs.length + shardedToPad xs.length D := by
  simp [shardedPad]

theorem shardedPad_dvd (filler : α) (xs : List α) (D : Nat) (hD : 1 ≤ D) :
    D ∣ (shardedPad filler xs D).length := by
  rw [shardedPad_length]
  unfold shardedToPad
  split
  · rename_i h
    rw [h, Nat.zero_add]
    exact Nat.dvd_refl D
  · exact dvd_add_toPad _ _ hD

theorem shardedPad_ne_nil (filler : α) (xs : List α) (D : Nat) (hD : 1 ≤ D) :
    shardedPad filler xs D ≠ [] := by
  cases xs with
  | nil => exact fun h => Nat.ne_of_gt (Nat.lt_of_succ_le hD) ((List.replicate_eq_nil_iff filler).mp h)
  | cons x xs => exact List.cons_ne_nil _ _

end PrecondVerif.Devices
