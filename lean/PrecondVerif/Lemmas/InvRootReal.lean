/-
Real-number part of the C01 lemmas: for a real Hermitian (symmetric) matrix the quadratic form is bounded by the
largest eigenvalue of Mathlib's spectral decomposition (`Matrix.IsHermitian.eigenvalues`, spectral theorem).
A file of its own, apart from `Lemmas/InvRoot.lean`, because of the analysis imports.
-/
import PrecondVerif.Lemmas.Loewner
import Mathlib.Analysis.Matrix.PosDef
import Mathlib.Algebra.Order.Star.Real

namespace PrecondVerif.InvRoot
open Matrix

theorem quad_le_max_eig {n : Nat} (M : Matrix (Fin n) (Fin n) ℝ) (hM : M.IsHermitian) (x : Fin n → ℝ) :
    x ⬝ᵥ (M *ᵥ x) ≤ (⨆ i, hM.eigenvalues i) * (x ⬝ᵥ x) := by
  set lam := ⨆ i, hM.eigenvalues i with hlam
  have hle : ∀ i, hM.eigenvalues i ≤ lam := fun i => le_ciSup (Set.finite_range _).bddAbove i
  set U : Matrix (Fin n) (Fin n) ℝ := (hM.eigenvectorUnitary : Matrix (Fin n) (Fin n) ℝ) with hU
  have hUU : U * star U = 1 := Unitary.coe_mul_star_self hM.eigenvectorUnitary
  have hspec : M = U * diagonal hM.eigenvalues * star U := by
    have := hM.spectral_theorem (𝕜 := ℝ)
    simpa [Unitary.conjStarAlgAut_apply] using this
  -- `λ·1 − M = U diag(λ − λ_i) Uᵀ`, positive semidefinite because every `λ − λ_i ≥ 0`
  have hB : lam • (1 : Matrix (Fin n) (Fin n) ℝ) - M = U * diagonal (fun i => lam - hM.eigenvalues i) * star U := by
    have h1 : lam • (1 : Matrix (Fin n) (Fin n) ℝ) = U * diagonal (fun _ => lam) * star U := by
      rw [← smul_one_eq_diagonal, mul_smul_comm, mul_one, smul_mul_assoc, hUU]
    conv_lhs => rw [hspec, h1]
    rw [← Matrix.sub_mul, ← Matrix.mul_sub, diagonal_sub]
  have hpsd : (lam • (1 : Matrix (Fin n) (Fin n) ℝ) - M).PosSemidef := by
    rw [hB, star_eq_conjTranspose, conjTranspose_eq_transpose_of_trivial]
    exact Loewner.conj_diagonal_psd U fun i => sub_nonneg.mpr (hle i)
  have := hpsd.dotProduct_mulVec_nonneg x
  simp only [sub_mulVec, smul_mulVec, one_mulVec, dotProduct_sub, dotProduct_smul, star_trivial, smul_eq_mul] at this
  exact sub_nonneg.mp this

end PrecondVerif.InvRoot
