/-
Scalar and matrix facts that the frequent-directions developments share (column form with a square `U`, row form with a
thin `Vt`).
Scalars: consequences of the kernel specification `sqrt x * sqrt x = x` for `0 ≤ x` (`sqrt 0 = 0`, used by both; `sqrt (x * x) = x`,
used by the unit-norm guard of `Lemmas/FD.lean`).
Matrices over a field: `A Aᵀ = 1` from entrywise orthonormality, `rank (W X Wᵀ) ≤` the width of `W`, and the rank argument
of both developments (`sorted_zero_of_rank_le`: a sorted non-negative spectrum `s` with `rank diag(s²) ≤ r` vanishes at `r`).
Loewner order: `W diag(w) Wᵀ ≥ 0`, `1 - W Wᵀ ≥ 0` for orthonormal columns, the deflation lemma (lowering the spectrum of
`W diag(σ) Wᵀ` by at most `ρ` lowers the matrix by at most `ρ·I`) and the bracket `S ≤ C ≤ S + t·I` kept by one step.
-/
import Mathlib.LinearAlgebra.Matrix.PosDef
import Mathlib.LinearAlgebra.Matrix.Rank

-- `[Field R]` and `[IsStrictOrderedRing R]` both provide `Nontrivial R`; an ordered field is stated with both
set_option linter.overlappingInstances false

namespace PrecondVerif

section SqrtSpec
variable {R : Type} [Field R] [LinearOrder R] [IsStrictOrderedRing R] (sqrt : R → R)
  (hsq : ∀ x, 0 ≤ x → sqrt x * sqrt x = x)
include hsq

theorem sqrt_zero_of_spec : sqrt 0 = 0 := mul_self_eq_zero.mp (hsq 0 le_rfl)

theorem sqrt_mul_self_of_spec (hsnn : ∀ x, 0 ≤ x → 0 ≤ sqrt x) {x : R} (hx : 0 ≤ x) : sqrt (x * x) = x :=
  (mul_self_inj (hsnn _ (mul_self_nonneg x)) hx).mp (hsq _ (mul_self_nonneg x))

end SqrtSpec

namespace Loewner
open Matrix

theorem rank_conj_le {R : Type} [Field R] {n l : ℕ} (W : Matrix (Fin n) (Fin l) R) (X : Matrix (Fin l) (Fin l) R) :
    (W * X * Wᵀ).rank ≤ l :=
  ((Matrix.rank_mul_le_left _ _).trans (Matrix.rank_mul_le_left _ _)).trans (Matrix.rank_le_width W)

/-- `A Aᵀ = 1` from the entrywise statement that the rows of `A` are orthonormal -/
theorem mul_transpose_eq_one {R : Type} [Field R] {m n : ℕ} (A : Matrix (Fin m) (Fin n) R)
    (h : ∀ i j, ∑ a, A i a * A j a = if i = j then 1 else 0) : A * Aᵀ = 1 := by
  ext i j
  rw [Matrix.mul_apply, Matrix.one_apply, ← h i j]
  rfl

theorem transpose_mul_eq_one {R : Type} [Field R] {m n : ℕ} (A : Matrix (Fin m) (Fin n) R)
    (h : ∀ a b, ∑ i, A i a * A i b = if a = b then 1 else 0) : Aᵀ * A = 1 := by
  have := mul_transpose_eq_one Aᵀ h
  rwa [transpose_transpose] at this

/-- the first `r + 1` entries of a sorted non-negative `s` with `s r ≠ 0` are non-zero, so `diag(s²)` would have rank above `r` -/
theorem sorted_zero_of_rank_le {R : Type} [Field R] [LinearOrder R] [IsStrictOrderedRing R] {m : ℕ} {s : Fin m → R}
    (hnn : ∀ i, 0 ≤ s i) (hsorted : ∀ a b : Fin m, a ≤ b → s b ≤ s a) {r : ℕ} (hr : r < m)
    (hrank : (diagonal fun i => s i * s i).rank ≤ r) : s ⟨r, hr⟩ = 0 := by
  by_contra hne
  have hpos : 0 < s ⟨r, hr⟩ := lt_of_le_of_ne (hnn _) (Ne.symm hne)
  have hsupp : ∀ x : Fin (r + 1), s (Fin.castLE hr x) * s (Fin.castLE hr x) ≠ 0 := fun x => by
    have : 0 < s (Fin.castLE hr x) := lt_of_lt_of_le hpos (hsorted _ _ (Nat.lt_succ_iff.mp x.2))
    exact (mul_pos this this).ne'
  have := Fintype.card_le_of_injective
    (fun x => (⟨Fin.castLE hr x, hsupp x⟩ : {i : Fin m // s i * s i ≠ 0}))
    fun x y hxy => Fin.castLE_injective hr (congrArg Subtype.val hxy)
  rw [Fintype.card_fin, ← Matrix.rank_diagonal] at this
  omega

variable {R : Type} [Field R] [LinearOrder R] [StarRing R] [StarOrderedRing R] {m n : ℕ}

/-- one sketched step on Gram matrices: if `S ≤ C ≤ S + t·I` and the new sketch `S'` satisfies
`S' ≤ β·S + N ≤ S' + ρ·I`, then `S' ≤ β·C + N ≤ S' + (β·t + ρ)·I` -/
theorem bracket_step {S S' C N : Matrix (Fin n) (Fin n) R} {β t ρ : R} (hβ : 0 ≤ β)
    (hlo : (C - S).PosSemidef) (hhi : (S + t • (1 : Matrix (Fin n) (Fin n) R) - C).PosSemidef)
    (dlo : (β • S + N - S').PosSemidef) (dhi : (S' + ρ • (1 : Matrix (Fin n) (Fin n) R) - (β • S + N)).PosSemidef) :
    (β • C + N - S').PosSemidef ∧ (S' + (β * t + ρ) • (1 : Matrix (Fin n) (Fin n) R) - (β • C + N)).PosSemidef := by
  constructor
  · have : β • C + N - S' = β • (C - S) + (β • S + N - S') := by
      rw [smul_sub]; abel
    rw [this]
    exact (hlo.smul hβ).add dlo
  · have : S' + (β * t + ρ) • (1 : Matrix (Fin n) (Fin n) R) - (β • C + N)
        = (S' + ρ • (1 : Matrix (Fin n) (Fin n) R) - (β • S + N)) + β • (S + t • (1 : Matrix (Fin n) (Fin n) R) - C) := by
      rw [add_smul, mul_smul, smul_sub, smul_add]; abel
    rw [this]
    exact dhi.add (hhi.smul hβ)

variable [TrivialStar R]

theorem conj_diagonal_psd (W : Matrix (Fin n) (Fin m) R) {w : Fin m → R} (hw : ∀ c, 0 ≤ w c) :
    (W * diagonal w * Wᵀ).PosSemidef := by
  simpa using (PosSemidef.diagonal hw).mul_mul_conjTranspose_same W

/-- `1 - W Wᵀ` is a symmetric idempotent when the columns of `W` are orthonormal -/
theorem one_sub_proj_psd (W : Matrix (Fin n) (Fin m) R) (hW : Wᵀ * W = 1) : (1 - W * Wᵀ).PosSemidef := by
  have hsym : (1 - W * Wᵀ)ᵀ = 1 - W * Wᵀ := by
    rw [transpose_sub, transpose_one, transpose_mul, transpose_transpose]
  have hid : (1 - W * Wᵀ)ᵀ * (1 - W * Wᵀ) = 1 - W * Wᵀ := by
    rw [hsym]
    exact IsIdempotentElem.one_sub (by rw [IsIdempotentElem, Matrix.mul_assoc, ← Matrix.mul_assoc Wᵀ, hW, Matrix.one_mul])
  rw [← hid]
  have := posSemidef_conjTranspose_mul_self (1 - W * Wᵀ)
  rwa [conjTranspose_eq_transpose_of_trivial] at this

/-- **Deflation lemma.** For orthonormal columns `W`, lowering each eigenvalue `σ c` to some `ν c` with
`ν c ≤ σ c ≤ ν c + ρ` gives `W diag(ν) Wᵀ ≤ W diag(σ) Wᵀ ≤ W diag(ν) Wᵀ + ρ·I`. -/
theorem deflation (W : Matrix (Fin n) (Fin m) R) (hW : Wᵀ * W = 1) {σ ν : Fin m → R} {ρ : R} (hρ : 0 ≤ ρ)
    (hlo : ∀ c, ν c ≤ σ c) (hhi : ∀ c, σ c ≤ ν c + ρ) :
    (W * diagonal σ * Wᵀ - W * diagonal ν * Wᵀ).PosSemidef ∧
    (W * diagonal ν * Wᵀ + ρ • (1 : Matrix (Fin n) (Fin n) R) - W * diagonal σ * Wᵀ).PosSemidef := by
  constructor
  · rw [← Matrix.sub_mul, ← Matrix.mul_sub, diagonal_sub]
    exact conj_diagonal_psd W fun c => sub_nonneg.mpr (hlo c)
  · -- the part of `ρ·I` outside the column space of `W` is `ρ (1 - W Wᵀ) ≥ 0`
    have : W * diagonal ν * Wᵀ + ρ • (1 : Matrix (Fin n) (Fin n) R) - W * diagonal σ * Wᵀ
        = W * diagonal (fun c => ν c + ρ - σ c) * Wᵀ + ρ • (1 - W * Wᵀ) := by
      rw [← diagonal_sub, ← diagonal_add, ← smul_one_eq_diagonal]
      simp only [Matrix.mul_add, Matrix.add_mul, Matrix.mul_sub, Matrix.sub_mul, Matrix.mul_smul, Matrix.smul_mul,
        Matrix.mul_one, smul_sub]
      abel
    rw [this]
    exact (conj_diagonal_psd W fun c => sub_nonneg.mpr (hhi c)).add ((one_sub_proj_psd W hW).smul hρ)

end Loewner

end PrecondVerif
