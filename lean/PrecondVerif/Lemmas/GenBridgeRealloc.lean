/-
Bridge between the GENERATED per-dimension allocation of `tearfree/reallocation.py::create_redist_dict`
(`Gen.redistGroup`, with its nested helpers `Gen.reallocRd`, `Gen.reallocGrpInfo`, `Gen.reallocIsOutlier`; written by
`harness/py2lean.py` from the current source on every C17 run) and the hand-written model `Realloc.groupRun`
(`Model/Realloc.lean`).

The generated code works on an opaque scalar type `R` through `ops : Py.RealOps R` (add, mul, div, ofInt, floor,
truthy, lt — never interpreted).  The hand model abstracts the arithmetic as `alloc : α → Int → α → Int` and needs
`+`, `0`, `<` on the scalars.  `modelRun` instantiates it with `+ := ops.add`, `0 := ops.ofInt 0`, `a < b := ops.lt a b`
and `alloc s R T := ops.floor (ops.mul s (if ops.truthy T then ops.div (ops.ofInt R) T else ops.ofInt 0))` — the
expression the generated code builds (`rd(x) - 1 = floor x`).  The bridge holds for EVERY `ops` (IEEE double, float32,
exact rationals, anything), every dimension, base rank and group with distinct keys (keys are dict keys in Python).
Kept apart from `Lemmas/GenBridge.lean` because it needs `Lemmas/Realloc.lean` (Mathlib).

One lemma per loop of the generated body: `sorted_eq` (`sorted`), `remaining_eq` (loop1, the suffix totals), `pass_eq`
(loop2, the proportional pass), `assert_loop` (loop3, `assert realloc[key] <= dim`), `leftover_eq` (loop4); they are
assembled in `redistGroup_eq`, the main theorem.
-/
import PrecondVerif.Gen.Src
import PrecondVerif.Lemmas.GenPrelude
import PrecondVerif.Lemmas.Realloc

namespace PrecondVerif.GenRealloc
open PrecondVerif PrecondVerif.Gen PrecondVerif.GenPrelude

/-- outcome of the hand model as the translated function reports it (`none` = an `assert` failed) -/
def outcome {β : Type} : Except Realloc.Err β → Option β
  | .ok r => some r
  | .error _ => none

theorem outcome_eq_some {β : Type} (x : Except Realloc.Err β) (r : β) : outcome x = some r ↔ x = .ok r := by
  cases x <;> simp [outcome]

variable {R : Type} (ops : Py.RealOps R)

/-- the hand model's share arithmetic `alloc s R T = rd(s * (R / T if T else 0.0)) - 1`, built from the opaque operations -/
def allocOf (s : R) (res : Int) (T : R) : Int :=
  ops.floor (ops.mul s (if ops.truthy T then ops.div (ops.ofInt res) T else ops.ofInt 0))

/-- the structure the hand model needs on the scalar type, read off the opaque operations -/
@[reducible] def instAdd : Add R := ⟨ops.add⟩
@[reducible] def instZero : OfNat R 0 := ⟨ops.ofInt 0⟩
@[reducible] def instLT : LT R := ⟨fun a b => ops.lt a b = true⟩
@[reducible] def instDec : @DecidableLT R (instLT ops) := fun a b => inferInstanceAs (Decidable (ops.lt a b = true))

/-- `Realloc.groupRun` (the hand-written model of one group) at these operations -/
def modelRun (k : Int) (d : Nat) (group : List (Int × R)) : Except Realloc.Err (List (Int × Int)) :=
  @Realloc.groupRun Int R (instAdd ops) (instZero ops) (instLT ops) (instDec ops) (allocOf ops) k d group

/-! The loops are compared with the hand model over ANY `+`, `0`, `<` on the scalars that the opaque operations agree
with; `GenProps.C17.redist_group_bridge` puts in the structure read off `ops`, for which the three agreements hold by
definition. -/

theorem sorted_eq [LT R] [DecidableLT R] (hlt : ∀ a b, ops.lt a b = decide (a < b)) (l : List (Int × R)) :
    Py.sortedDesc ops.lt (fun (x : Int × R) => x.2) l = Realloc.sortDesc l := by
  induction l with
  | nil => rfl
  | cons x xs ih =>
    simp only [Py.sortedDesc, Realloc.sortDesc, ih]
    generalize Realloc.sortDesc xs = ys
    induction ys with
    | nil => rfl
    | cons y ys ih2 =>
      simp only [Py.insDesc, Realloc.insDesc, ih2, hlt, decide_eq_true_eq]

theorem remaining_eq [Add R] [OfNat R 0] (hadd : ∀ a b, ops.add a b = a + b) (l : List (Int × R)) :
    List.foldl (redistGroup_loop1 ops) (0, []) l.reverse =
      (Realloc.headD0 (Realloc.suffixTotals (l.map Prod.snd)),
       (Realloc.suffixTotals (l.map Prod.snd)).reverse) := by
  induction l with
  | nil => rfl
  | cons x xs ih =>
    simp only [List.reverse_cons, List.foldl_append, List.foldl_cons, List.foldl_nil, ih, redistGroup_loop1,
      List.map_cons, Realloc.suffixTotals, Realloc.headD0, List.reverse_cons, hadd]

theorem outlier_eq (s T : R) (res d : Int) :
    reallocIsOutlier ops s T res d = decide (allocOf ops s res T > d) := by
  simp only [reallocIsOutlier, reallocRd, allocOf]
  -- `rd(x) - 1 = floor x`
  exact decide_eq_decide.mpr ⟨fun h => by omega, fun h => by omega⟩

theorem pass_step (d res : Int) (acc : List (Int × Int)) (key : Int) (s T : R) (hk : key ∉ acc.map Prod.fst) :
    redistGroup_loop2 ops d (acc, res) ((key, s), T) =
      if allocOf ops s res T > d - 1 then (acc ++ [(key, d)], res - (d - 1))
      else (acc ++ [(key, allocOf ops s res T + 1)], res - allocOf ops s res T) := by
  simp only [redistGroup_loop2, outlier_eq, decide_eq_true_eq, dictSet_append _ _ _ hk]
  -- `rd(x) - 1 = floor x`
  simp only [reallocRd, allocOf, Int.add_sub_cancel, Prod.mk.eta]
  rfl

/-- invariant: the keys set so far and the keys still to come are pairwise distinct, so every `realloc[key] = …` appends -/
theorem pass_eq (d : Int) (l : List ((Int × R) × R)) (acc : List (Int × Int)) (res : Int)
    (hnd : (acc.map Prod.fst ++ l.map fun x => x.1.1).Nodup) :
    (List.foldl (redistGroup_loop2 ops d) (acc, res) l).1 = acc ++ Realloc.pass (allocOf ops) d res l := by
  induction l generalizing acc res with
  | nil => simp [Realloc.pass]
  | cons x rest ih =>
    obtain ⟨⟨key, s⟩, T⟩ := x
    have hk : key ∉ acc.map Prod.fst := fun h => (List.nodup_append.mp hnd).2.2 _ h _ (List.mem_cons_self ..) rfl
    have hnd' : ∀ v : Int, ((acc ++ [(key, v)]).map Prod.fst ++ rest.map fun x => x.1.1).Nodup := by
      intro v
      simpa using hnd
    rw [List.foldl_cons, pass_step ops d res acc key s T hk]
    simp only [Realloc.pass]
    by_cases hc : allocOf ops s res T > d - 1
    · rw [if_pos hc, if_pos hc, ih _ _ (hnd' _), List.append_assoc, List.singleton_append]
    · rw [if_neg hc, if_neg hc, ih _ _ (hnd' _), List.append_assoc, List.singleton_append]

theorem assert_loop_some (d : Int) (D : List (Int × Int)) (x : Option (List (Int × Int))) (ks : List Int) :
    List.foldl (redistGroup_loop3 ops d D) (some x) ks = some x :=
  List.foldl_fixed' (fun _ => rfl) ks

theorem assert_loop (d : Int) (D : List (Int × Int)) (ks : List Int) :
    List.foldl (redistGroup_loop3 ops d D) none ks =
      if ∀ k ∈ ks, Py.dictGet D k ≤ d then none else some none := by
  induction ks with
  | nil => simp
  | cons k ks ih =>
    simp only [List.foldl_cons, redistGroup_loop3]
    by_cases h : Py.dictGet D k ≤ d
    · simp only [h, decide_true, if_true, ih, List.forall_mem_cons, true_and]
    · simp only [h, decide_false, Bool.false_eq_true, if_false, assert_loop_some, List.forall_mem_cons, false_and]

/-- the `assert` loop finds no key above `d` iff the model's search for a rank above `d` finds nothing -/
theorem assert_holds_iff_find_none (d : Int) (D : List (Int × Int)) (hnd : (D.map Prod.fst).Nodup) :
    (∀ k ∈ Py.dictKeys D, Py.dictGet D k ≤ d) ↔ D.find? (fun p => decide (p.2 > d)) = none := by
  simp only [Py.dictKeys, List.forall_mem_map, List.find?_eq_none, decide_eq_true_eq, gt_iff_lt, Int.not_lt]
  exact forall₂_congr fun p hp => by rw [dictGet_of_mem D hnd p hp]

theorem leftover_done (d : Int) (st : Int × List (Int × Int)) (xs : List (Int × R)) :
    List.foldl (redistGroup_loop4 ops d) (true, st) xs = (true, st) :=
  List.foldl_fixed' (fun _ => rfl) xs

theorem leftover_step (d extra : Int) (pre rest : List (Int × Int)) (k r : Int) (s : R) (hk : k ∉ pre.map Prod.fst) :
    redistGroup_loop4 ops d (false, extra, pre ++ (k, r) :: rest) (k, s) =
      (decide ((if min (r + 1) d > r then extra - 1 else extra) ≤ 0),
        (if min (r + 1) d > r then extra - 1 else extra), pre ++ (k, min (r + 1) d) :: rest) := by
  simp only [redistGroup_loop4, Bool.false_eq_true, if_false, dictGet_mid _ _ _ _ hk, dictSet_mid _ _ _ _ _ hk,
    decide_eq_true_eq]
  generalize (if min (r + 1) d > r then extra - 1 else extra) = e
  by_cases hc : e ≤ 0
  · rw [if_pos hc, decide_eq_true hc]
  · rw [if_neg hc, decide_eq_false hc]

/-- `cur`: the entries not yet visited, in the order of `xs`; `pre`: those already incremented -/
theorem leftover_eq (d : Int) (cur pre : List (Int × Int)) (xs : List (Int × R)) (extra : Int)
    (hk : xs.map Prod.fst = cur.map Prod.fst) (hnd : ((pre ++ cur).map Prod.fst).Nodup) :
    (List.foldl (redistGroup_loop4 ops d) (false, extra, pre ++ cur) xs).2.2 = pre ++ Realloc.leftover d extra cur := by
  induction cur generalizing pre xs extra with
  | nil =>
    obtain rfl : xs = [] := List.map_eq_nil_iff.mp hk
    rfl
  | cons p rest ih =>
    obtain ⟨k, r⟩ := p
    cases xs with
    | nil => exact absurd hk (by simp)
    | cons x xs =>
      obtain ⟨k', s⟩ := x
      simp only [List.map_cons, List.cons.injEq] at hk
      obtain ⟨rfl, hk⟩ := hk
      have hkpre : k' ∉ pre.map Prod.fst := by
        rw [List.map_append, List.map_cons] at hnd
        exact fun h => (List.nodup_append.mp hnd).2.2 _ h _ (List.mem_cons_self ..) rfl
      rw [List.foldl_cons, leftover_step ops d extra pre rest k' r s hkpre]
      simp only [Realloc.leftover]
      by_cases hc : (if min (r + 1) d > r then extra - 1 else extra) ≤ 0
      · rw [decide_eq_true hc, leftover_done, if_pos hc]
      · rw [decide_eq_false hc, if_neg hc, ← List.singleton_append, ← List.append_assoc,
          ih _ xs _ hk (by simpa using hnd), List.append_assoc, List.singleton_append]

/-- the translated body is the hand model, for any `+`, `0`, `<` on the scalars that the opaque operations agree with -/
theorem redistGroup_eq [Add R] [OfNat R 0] [LT R] [DecidableLT R] (hadd : ∀ a b, ops.add a b = a + b) (hzero : ops.ofInt 0 = 0)
    (hlt : ∀ a b, ops.lt a b = decide (a < b)) (d : Nat) (k : Int) (group : List (Int × R))
    (hnd : (group.map Prod.fst).Nodup) :
    redistGroup ops (d : Int) k group = outcome (Realloc.groupRun (allocOf ops) k d group) := by
  simp only [redistGroup, reallocGrpInfo, Py.len, List.length_map, sorted_eq ops hlt, hzero, remaining_eq ops hadd,
    List.reverse_reverse, Int.ofNat_eq_natCast, Realloc.groupRun, Realloc.groupRunGen, Realloc.codeTotals]
  have hS : ((Realloc.sortDesc group).map Prod.fst).Nodup :=
    ((Realloc.sortDesc_perm group).map Prod.fst).nodup_iff.mpr hnd
  -- from here on the body sees the group only through its size `n` and the sorted list `S`
  generalize Realloc.sortDesc group = S at hS ⊢
  generalize (group.length : Int) = n
  have hzk := Realloc.zip_keys S (Realloc.suffixTotals (S.map Prod.snd))
    (by rw [Realloc.suffixTotals_length, List.length_map])
  have hpass := pass_eq ops (d : Int) (S.zip (Realloc.suffixTotals (S.map Prod.snd))) [] (n * k - n) (by simpa [hzk] using hS)
  have hrk := Realloc.pass_keys (allocOf ops) (d : Int) (n * k - n) (S.zip (Realloc.suffixTotals (S.map Prod.snd)))
  rw [List.nil_append] at hpass
  rw [hpass]
  rw [hzk] at hrk
  obtain ⟨ranks, hr⟩ : ∃ ranks, ranks =
      Realloc.pass (allocOf ops) (d : Int) (n * k - n) (S.zip (Realloc.suffixTotals (S.map Prod.snd))) := ⟨_, rfl⟩
  rw [← hr] at hrk
  simp only [← hr]
  have hrnd : (ranks.map Prod.fst).Nodup := hrk ▸ hS
  have hlo := leftover_eq ops (d : Int) ranks [] S (n * k - (ranks.map Prod.snd).sum) hrk.symm (by simpa using hrnd)
  rw [List.nil_append, List.nil_append] at hlo
  simp only [assert_loop, sum_eq, Py.dictValues, hlo, assert_holds_iff_find_none (d : Int) ranks hrnd]
  -- what is left, over variables: the three `assert`s come in the model's order, then the test for the leftover loop
  generalize Realloc.leftover (d : Int) (n * k - (ranks.map Prod.snd).sum) ranks = lo
  generalize (ranks.map Prod.snd).sum = s
  generalize n * k = B
  by_cases hbase : B < n
  · -- `assert group_resource >= group_size`
    rw [if_pos hbase, if_neg fun h => Int.not_le.mpr hbase (of_decide_eq_true h)]
    rfl
  · rw [if_neg hbase, if_pos (decide_eq_true (Int.not_lt.mp hbase))]
    cases List.find? (fun p => decide (p.2 > (d : Int))) ranks with
    | some p =>
      -- `assert realloc[key] <= dim`
      rfl
    | none =>
      simp only [if_true]
      by_cases hover : s > B
      · -- `assert allocated <= group_resource`
        rw [if_pos hover, if_neg fun h => Int.not_le.mpr hover (of_decide_eq_true h)]
        rfl
      · rw [if_neg hover, if_pos (decide_eq_true (Int.not_lt.mp hover))]
        by_cases hleft : s < B
        · rw [if_pos hleft, if_pos (decide_eq_true hleft)]
          rfl
        · rw [if_neg hleft, if_neg fun h => hleft (of_decide_eq_true h)]
          rfl

end PrecondVerif.GenRealloc
