/-
Lemmas for C15 (Tearfree composition, `Model/Tearfree.lean`).

Sections `Chain` and `FirstOrder` need no algebra: the statements hold for every scalar type, `Float` included
(`sharded_chain` unfolds positionally, `momentum.apply`'s run-time list is the documented momentum stage, the two branches of
`graft`). Exact linearity in the learning rate and the documented momentum formulas need a field (section `Field`); the block
inverse root is treated under the `eigh` specification `EighSpec` (independence of the decomposition through
`Lemmas/Spectral.lean`, zero padding with `padFn`, `padEigh` read as block matrices); then the closed form of the statistics
over a history; last what the array functions of the model compute entry by entry (`flat_get`, `rd_tab`, `applyAxis_get`,
`blockRoot_eq`) and the cadence of `shampoo._update`.
-/
import PrecondVerif.Model.Tearfree
import PrecondVerif.Lemmas.Shapes
import PrecondVerif.Lemmas.Spectral
import Mathlib.Algebra.BigOperators.Fin
import Mathlib.Data.Matrix.Block

namespace PrecondVerif.Tearfree
open Matrix

section Chain
variable {S S₁ S₂ S₃ U P : Type}

theorem chain2_update (a : Tx S₁ U P) (b : Tx S₂ U P) (u : U) (s : S₁ × S₂) (p : P) :
    (chain2 a b).update u s p =
      ((b.update (a.update u s.1 p).1 s.2 p).1, ((a.update u s.1 p).2, (b.update (a.update u s.1 p).1 s.2 p).2)) := rfl

theorem chain3_update (a : Tx S₁ U P) (b : Tx S₂ U P) (c : Tx S₃ U P) (u : U) (s : S₁ × S₂ × S₃) (p : P) :
    (chain3 a b c).update u s p =
      ((c.update (b.update (a.update u s.1 p).1 s.2.1 p).1 s.2.2 p).1,
       ((a.update u s.1 p).2, (b.update (a.update u s.1 p).1 s.2.1 p).2,
        (c.update (b.update (a.update u s.1 p).1 s.2.1 p).1 s.2.2 p).2)) := by
  rw [chain3, chain2_update, chain2_update]

theorem chain3_init (a : Tx S₁ U P) (b : Tx S₂ U P) (c : Tx S₃ U P) (p : P) :
    (chain3 a b c).init p = (a.init p, b.init p, c.init p) := rfl

theorem chainLGo_cons (f : Tx S U P) (fs : List (Tx S U P)) (u : U) (s : S) (ss : List S) (p : P) :
    chainLGo (f :: fs) u (s :: ss) p =
      ((chainLGo fs (f.update u s p).1 ss p).1, (f.update u s p).2 :: (chainLGo fs (f.update u s p).1 ss p).2) := rfl

/-- `sharded_chain(*l₁, *l₂)` runs `l₁` on its share of the state tuple, then `l₂` on the rest -/
theorem chainLGo_append (l₁ l₂ : List (Tx S U P)) (u : U) (s₁ s₂ : List S) (p : P) (h : s₁.length = l₁.length) :
    chainLGo (l₁ ++ l₂) u (s₁ ++ s₂) p =
      ((chainLGo l₂ (chainLGo l₁ u s₁ p).1 s₂ p).1, (chainLGo l₁ u s₁ p).2 ++ (chainLGo l₂ (chainLGo l₁ u s₁ p).1 s₂ p).2) := by
  induction l₁ generalizing u s₁ with
  | nil =>
    obtain rfl := List.length_eq_zero_iff.mp h
    rfl
  | cons f fs ih =>
    obtain ⟨s, ss, rfl⟩ := List.exists_cons_of_length_eq_add_one h
    simp only [List.cons_append, chainLGo_cons, ih _ _ (Nat.succ.inj h)]

theorem chainL_update (l : List (Tx S U P)) : (chainL l).update = chainLGo l := rfl

theorem chainL_init (l : List (Tx S U P)) (p : P) : (chainL l).init p = l.map fun f => f.init p := rfl

end Chain

section FirstOrder
-- the notation classes are those of the model's section; every lemma here carries all of them
set_option linter.unusedSectionVars false
variable {α : Type} [Zero α] [One α] [Add α] [Sub α] [Mul α] [Neg α] [LT α] [DecidableLT α] [BEq α]

theorem traceF_eq (d : α) : traceF d = fun g t => g + d * t := rfl

/-- counter of the learning-rate stage after one update -/
def LR.next : LR α → Nat → Nat
  | .const _, n => n
  | .sched _, n => n + 1

theorem lrTx_update (lr : LR α) (u : List α) (n : Nat) (x : List α) :
    (lrTx lr).update u n x = (specLr lr n u, lr.next n) := by
  cases lr <;> rfl

theorem lrTx_init (lr : LR α) (p : List α) : (lrTx lr).init p = 0 := by
  cases lr <;> rfl

/-- the two groups `mom`, `wdt` of the list `momentum.apply` builds, and their shares of the state tuple around a velocity -/
def momGroup (o : MomOpts α) : List (FTx α) :=
  if o.decay == 0 then [] else (if o.ema then [scaleTx (1 - o.decay)] else []) ++ [traceTx o.decay o.nesterov]

def wdGroup (o : MomOpts α) : List (FTx α) := if 0 < o.wd then [addDecayedWeightsTx o.wd] else []

def momShare (o : MomOpts α) (tr : List α) : List (List α) :=
  if o.decay == 0 then [] else (if o.ema then [[]] else []) ++ [tr]

def wdShare (o : MomOpts α) : List (List α) := if 0 < o.wd then [[]] else []

theorem momentumTransforms_eq (o : MomOpts α) :
    momentumTransforms o = if o.after then momGroup o ++ wdGroup o else wdGroup o ++ momGroup o := rfl

theorem momState_eq (o : MomOpts α) (tr : List α) :
    momState o tr = if o.after then momShare o tr ++ wdShare o else wdShare o ++ momShare o tr := rfl

theorem momShare_length (o : MomOpts α) (tr : List α) : (momShare o tr).length = (momGroup o).length := by
  unfold momShare momGroup
  cases o.decay == 0
  · cases o.ema <;> rfl
  · rfl

theorem wdShare_length (o : MomOpts α) : (wdShare o).length = (wdGroup o).length := by
  unfold wdShare wdGroup
  rw [apply_ite List.length, apply_ite List.length]
  rfl

theorem momGroup_init (o : MomOpts α) (p : List α) :
    (momGroup o).map (fun f => f.init p) = momShare o (p.map fun _ => 0) := by
  unfold momShare momGroup
  cases o.decay == 0
  · cases o.ema <;> rfl
  · rfl

theorem wdGroup_init (o : MomOpts α) (p : List α) : (wdGroup o).map (fun f => f.init p) = wdShare o := by
  unfold wdShare wdGroup
  rw [apply_ite (List.map _)]
  rfl

theorem chainLGo_momGroup (o : MomOpts α) (u tr x : List α) :
    chainLGo (momGroup o) u (momShare o tr) x = ((specMomentum o u tr).1, momShare o (specMomentum o u tr).2) := by
  unfold momShare momGroup specMomentum
  cases o.decay == 0
  · cases o.ema <;> rfl
  · rfl

theorem chainLGo_wdGroup (o : MomOpts α) (u x : List α) :
    chainLGo (wdGroup o) u (wdShare o) x = (specDecay o.wd u x, wdShare o) := by
  unfold wdShare wdGroup specDecay
  by_cases h : 0 < o.wd
  · simp only [if_pos h]; rfl
  · simp only [if_neg h]; rfl

theorem momentumTx_update (o : MomOpts α) (u tr x : List α) :
    (momentumTx o).update u (momState o tr) x =
      ((specMomentumStage o u tr x).1, momState o (specMomentumStage o u tr x).2) := by
  simp only [momentumTx, chainL_update, momentumTransforms_eq, momState_eq, specMomentumStage]
  cases o.after
  · simp only [Bool.false_eq_true, if_false, chainLGo_append _ _ _ _ _ _ (wdShare_length o), chainLGo_wdGroup,
      chainLGo_momGroup]
  · simp only [if_true, chainLGo_append _ _ _ _ _ _ (momShare_length o tr), chainLGo_momGroup, chainLGo_wdGroup]

theorem momentumTx_init (o : MomOpts α) (p : List α) :
    (momentumTx o).init p = momState o (p.map fun _ => 0) := by
  simp only [momentumTx, chainL_init, momentumTransforms_eq, momState_eq]
  cases o.after
  · simp only [Bool.false_eq_true, if_false, List.map_append, momGroup_init, wdGroup_init]
  · simp only [if_true, List.map_append, momGroup_init, wdGroup_init]

variable {GS : Type}

theorem tearfreeTx_update (G : Tx GS (List α) (List α)) (o : MomOpts α) (lr : LR α) (g : List α) (gs : GS)
    (tr : List α) (n : Nat) (x : List α) :
    (tearfreeTx G o lr).update g (gs, momState o tr, n) x =
      (specLr lr n (specMomentumStage o (G.update g gs x).1 tr x).1,
       ((G.update g gs x).2, momState o (specMomentumStage o (G.update g gs x).1 tr x).2, lr.next n)) := by
  rw [tearfreeTx, chain3_update]
  simp only [momentumTx_update, lrTx_update]

/-- the documented composition folded over a history: graft state, velocity and step counter threaded explicitly -/
def specRun (G : Tx GS (List α) (List α)) (o : MomOpts α) (lr : LR α) :
    GS → List α → Nat → List (List α × List α) → List (List α)
  | _, _, _, [] => []
  | gs, tr, n, (g, x) :: rest =>
    let r := G.update g gs x
    let m := specMomentumStage o r.1 tr x
    specLr lr n m.1 :: specRun G o lr r.2 m.2 (lr.next n) rest

theorem runTx_tearfree (G : Tx GS (List α) (List α)) (o : MomOpts α) (lr : LR α) (h : List (List α × List α)) :
    ∀ (gs : GS) (tr : List α) (n : Nat),
      (runTx (tearfreeTx G o lr) (gs, momState o tr, n) h).1 = specRun G o lr gs tr n h := by
  induction h with
  | nil => intro gs tr n; rfl
  | cons a rest ih =>
    intro gs tr n
    rcases a with ⟨g, x⟩
    simp only [runTx, specRun, tearfreeTx_update, ih]

variable [Div α] {DS NS : Type}

/-- `GraftingType.NONE`: the direction stage alone -/
theorem graftTx_update_none (sqrt : α → α) {o : GraftOpts α} (h : o.type = .none) (shape : List Nat)
    (direction : Tx DS (List α) (List α)) (norm : Tx NS (List α) (List α)) (u : List α) (s : GState DS NS) (p : List α) :
    (graftTx sqrt o shape direction norm).update u s p =
      ((direction.update u s.direction p).1, { s with direction := (direction.update u s.direction p).2 }) := by
  simp only [graftTx, h, if_true]

/-- any other type: the direction stage (skipped on a masked leaf) grafted onto the norm stage, counter advanced -/
theorem graftTx_update_graft (sqrt : α → α) {o : GraftOpts α} (h : o.type ≠ .none) (shape : List Nat)
    (direction : Tx DS (List α) (List α)) (norm : Tx NS (List α) (List α)) (u : List α) (s : GState DS NS) (p : List α) :
    (graftTx sqrt o shape direction norm).update u s p =
      (Graft.tfMaybeGraft sqrt s.count o.start (Graft.tfMaskSkipped o.rank1 o.anyDimGt shape) (norm.update u s.norm p).1
          (if Graft.tfMaskSkipped o.rank1 o.anyDimGt shape then (u, s.direction) else direction.update u s.direction p).1,
        ⟨s.count + 1,
          (if Graft.tfMaskSkipped o.rank1 o.anyDimGt shape then (u, s.direction) else direction.update u s.direction p).2,
          (norm.update u s.norm p).2⟩) := by
  simp only [graftTx, h, if_false]

end FirstOrder

section Field
variable {α : Type} [Field α] {GS : Type}

/-- the learning rate multiplied by a constant `c` (a number or a whole schedule) -/
def LR.scale (c : α) : LR α → LR α
  | .const v => .const (c * v)
  | .sched f => .sched fun n => c * f n

theorem LR.scale_at (c : α) (lr : LR α) (n : Nat) : (lr.scale c).at n = c * lr.at n := by
  cases lr <;> rfl

theorem LR.scale_next (c : α) (lr : LR α) (n : Nat) : (lr.scale c).next n = lr.next n := by
  cases lr <;> rfl

theorem specLr_scale (c : α) (lr : LR α) (n : Nat) (u : List α) :
    specLr (lr.scale c) n u = (specLr lr n u).map fun y => c * y := by
  simp only [specLr, LR.scale_at, List.map_map]
  apply List.map_congr_left
  intro g _
  simp only [Function.comp]
  ring

variable [LinearOrder α]

theorem tearfreeTx_update_scale (G : Tx GS (List α) (List α)) (o : MomOpts α) (lr : LR α) (c : α)
    (g : List α) (s : GS × List (List α) × Nat) (x : List α) :
    (tearfreeTx G o (lr.scale c)).update g s x =
      (((tearfreeTx G o lr).update g s x).1.map fun y => c * y, ((tearfreeTx G o lr).update g s x).2) := by
  simp only [tearfreeTx, chain3_update, lrTx_update, specLr_scale, LR.scale_next]

theorem runTx_scale (G : Tx GS (List α) (List α)) (o : MomOpts α) (lr : LR α) (c : α)
    (h : List (List α × List α)) : ∀ s : GS × List (List α) × Nat,
    runTx (tearfreeTx G o (lr.scale c)) s h =
      ((runTx (tearfreeTx G o lr) s h).1.map fun u => u.map fun y => c * y, (runTx (tearfreeTx G o lr) s h).2) := by
  induction h with
  | nil => intro s; rfl
  | cons a rest ih =>
    intro s
    rcases a with ⟨g, x⟩
    simp only [runTx, tearfreeTx_update_scale, ih, List.map_cons]

/-- `velocity(t+1)` of `momentum.Options`' docstring -/
def docVelocity (ema : Bool) (decay v u : α) : α :=
  if ema then decay * v + (1 - decay) * u else decay * v + u

/-- `update'(t+1)` of the docstring: the velocity, or (Nesterov) `maybe_decay * update(t) + decay * velocity(t+1)` -/
def docOutput (ema nesterov : Bool) (decay u v' : α) : α :=
  if nesterov then (if ema then 1 - decay else 1) * u + decay * v' else v'

theorem specMomentum_velocity (o : MomOpts α) (hd : o.decay ≠ 0) (u tr : List α) :
    (specMomentum o u tr).2 = List.zipWith (docVelocity o.ema o.decay) tr u := by
  have h0 : (o.decay == 0) = false := by simpa using hd
  simp only [specMomentum, h0, Bool.false_eq_true, if_false]
  rw [List.zipWith_comm]
  cases o.ema
  · simp only [Bool.false_eq_true, if_false]
    exact congrArg (List.zipWith · tr u) (funext₂ fun v g => add_comm _ _)
  · simp only [if_true, List.zipWith_map_right]
    exact congrArg (List.zipWith · tr u) (funext₂ fun v g => add_comm _ _)

theorem specMomentum_output (o : MomOpts α) (hd : o.decay ≠ 0) (u tr : List α) :
    (specMomentum o u tr).1 =
      if o.nesterov then
        List.zipWith (fun g v' => docOutput o.ema true o.decay g v') u (specMomentum o u tr).2
      else (specMomentum o u tr).2 := by
  have h0 : (o.decay == 0) = false := by simpa using hd
  simp only [specMomentum, h0, Bool.false_eq_true, if_false]
  cases o.nesterov
  · rfl
  · cases o.ema
    · simp only [Bool.false_eq_true, if_false, docOutput, if_true, one_mul]
    · simp only [if_true, docOutput, List.zipWith_map_left]

end Field

section Root

/-- `FD.sumFin_eq` of `Lemmas/FD.lean` over any additive monoid; that file is not imported here -/
theorem sumFin_eq {α : Type} [AddCommMonoid α] {n : ℕ} (f : Fin n → α) : FD.sumFin f = ∑ i, f i := by
  rw [FD.sumFin, Fin.sum_univ_def]

variable {α : Type} [Field α]

section
variable {n : ℕ}

/-- the specification of the external kernel `eigh` the theorems assume: orthonormal columns and `V diag(w) Vᵀ = C` -/
structure EighSpec (C : Matrix (Fin n) (Fin n) α) (e : EighOut α n) : Prop where
  ortho : (Matrix.of e.V)ᵀ * Matrix.of e.V = 1
  recon : Matrix.of e.V * diagonal e.w * (Matrix.of e.V)ᵀ = C

theorem eighSpec_diagonal (w : Fin n → α) : EighSpec (diagonal w) ⟨w, fun i j => if i = j then 1 else 0⟩ := by
  have h1 : Matrix.of (fun i j : Fin n => if i = j then (1 : α) else 0) = 1 := by
    ext i j; rw [Matrix.of_apply, Matrix.one_apply]
  exact ⟨by rw [h1, transpose_one, one_mul], by rw [h1, transpose_one, one_mul, mul_one]⟩

end

variable [LinearOrder α] {n : ℕ}

/-- the specification of the scalar kernel `hp x = x ** (-0.5 / p)` on positive reals -/
def HpSpec (hp : α → α) (p : ℕ) : Prop := ∀ x, 0 < x → 0 < hp x ∧ (hp x * hp x) ^ p * x = 1

theorem le_vmax : ∀ (l : List α), ∀ y ∈ l, y ≤ vmax l
  | x :: xs, y, hy => (List.max?_eq_some_iff.mp (List.max?_cons' (x := x) (xs := xs))).2 y hy

theorem vmax_mem : ∀ (l : List α), l ≠ [] → vmax l ∈ l
  | x :: xs, _ => List.max?_mem (List.max?_cons' (x := x) (xs := xs))

theorem le_wmax (w : Fin n → α) (a : Fin n) : w a ≤ wmax w :=
  le_vmax _ _ (List.mem_map.mpr ⟨a, List.mem_finRange a, rfl⟩)

theorem wmax_attained (w : Fin n → α) : (∃ a, wmax w = w a) ∨ (n = 0 ∧ wmax w = 0) := by
  rcases Nat.eq_zero_or_pos n with rfl | hn
  · exact Or.inr ⟨rfl, rfl⟩
  · have hne : (List.finRange n).map w ≠ [] := by simp; omega
    obtain ⟨a, _, ha⟩ := List.mem_map.mp (vmax_mem _ hne)
    exact Or.inl ⟨a, ha.symm⟩

/-- the second disjunct is the model's `vmax [] = 0` for an empty block -/
theorem wmax_eq_of (w : Fin n → α) (M : α) (hle : ∀ a, w a ≤ M) (hatt : (∃ a, M = w a) ∨ (n = 0 ∧ M = 0)) :
    wmax w = M := by
  rcases wmax_attained w with ⟨a, ha⟩ | ⟨h0, hz⟩
  · rcases hatt with ⟨b, hb⟩ | ⟨h0, _⟩
    · exact le_antisymm (ha ▸ hle a) (hb ▸ le_wmax w b)
    · subst h0; exact a.elim0
  · rcases hatt with ⟨b, _⟩ | ⟨_, hM⟩
    · subst h0; exact b.elim0
    · rw [hz, hM]

theorem wmax_congr {m : ℕ} (w : Fin n → α) (w' : Fin m → α) (h1 : ∀ a, ∃ b, w a = w' b) (h2 : ∀ b, ∃ a, w' b = w a) :
    wmax w = wmax w' := by
  apply wmax_eq_of
  · intro a
    obtain ⟨b, hb⟩ := h1 a
    rw [hb]; exact le_wmax w' b
  · rcases wmax_attained w' with ⟨b, hb⟩ | ⟨h0, hz⟩
    · obtain ⟨a, ha⟩ := h2 b
      exact Or.inl ⟨a, hb.trans ha⟩
    · by_cases hn : n = 0
      · exact Or.inr ⟨hn, hz⟩
      · obtain ⟨a⟩ : Nonempty (Fin n) := ⟨⟨0, Nat.pos_of_ne_zero hn⟩⟩
        obtain ⟨b, _⟩ := h1 a
        subst h0; exact b.elim0

theorem wmax_nonneg (w : Fin n → α) (hw : ∀ a, 0 ≤ w a) : 0 ≤ wmax w := by
  rcases wmax_attained w with ⟨a, ha⟩ | ⟨_, hz⟩
  · exact ha ▸ hw a
  · exact hz.ge

section
variable (cut : α) (e : EighOut α n)

/-- 0/1 indicator of the retained eigenvalues -/
def keep01 (a : Fin n) : α := if kept cut e.w a then 1 else 0

/-- projector on the retained eigenspace -/
def projM : Matrix (Fin n) (Fin n) α := Matrix.of e.V * diagonal (keep01 cut e) * (Matrix.of e.V)ᵀ
end

theorem rootOfEigh_eq (hp : α → α) (cut : α) (e : EighOut α n) :
    Matrix.of (rootOfEigh hp cut e) =
      Matrix.of e.V * diagonal (fun a => half hp cut e.w a * half hp cut e.w a) * (Matrix.of e.V)ᵀ := by
  ext i j
  rw [Spectral.conj_diagonal_apply]
  simp only [Matrix.of_apply, rootOfEigh, sumFin_eq]
  refine Finset.sum_congr rfl fun a _ => ?_
  ring

theorem rootOfEigh_transpose (hp : α → α) (cut : α) (e : EighOut α n) :
    (Matrix.of (rootOfEigh hp cut e))ᵀ = Matrix.of (rootOfEigh hp cut e) := by
  rw [rootOfEigh_eq]
  simp only [Matrix.transpose_mul, Matrix.transpose_transpose, diagonal_transpose, Matrix.mul_assoc]

theorem projM_transpose (cut : α) (e : EighOut α n) : (projM cut e)ᵀ = projM cut e := by
  unfold projM
  simp only [Matrix.transpose_mul, Matrix.transpose_transpose, diagonal_transpose, Matrix.mul_assoc]

theorem projM_mul_self (cut : α) (e : EighOut α n) (hV : (Matrix.of e.V)ᵀ * Matrix.of e.V = 1) :
    projM cut e * projM cut e = projM cut e := by
  unfold projM
  rw [Spectral.vdv_mul _ hV]
  have : (fun a => keep01 cut e a * keep01 cut e a) = keep01 cut e := by
    funext a
    unfold keep01
    split <;> simp
  rw [this]

theorem projM_comm (cut : α) (e : EighOut α n) (C : Matrix (Fin n) (Fin n) α) (hs : EighSpec C e) :
    projM cut e * C = C * projM cut e := by
  rw [← hs.recon, projM, Spectral.vdv_mul _ hs.ortho, Spectral.vdv_mul _ hs.ortho,
    funext fun a => mul_comm (keep01 cut e a) (e.w a)]

theorem rootOfEigh_unique (hp : α → α) (cut : α) (C : Matrix (Fin n) (Fin n) α) (e e' : EighOut α n)
    (hs : EighSpec C e) (hs' : EighSpec C e') : rootOfEigh hp cut e = rootOfEigh hp cut e' := by
  -- same set of eigenvalues, so the cut is relative to the same maximum and `half²` is one function `f` of the eigenvalue
  have hmax : wmax e'.w = wmax e.w :=
    wmax_congr e'.w e.w (Spectral.eigh_values_subset hs'.ortho hs'.recon hs.ortho hs.recon)
      (Spectral.eigh_values_subset hs.ortho hs.recon hs'.ortho hs'.recon)
  let f : α → α := fun x => (if cut * wmax e.w < x then hp x else 0) * (if cut * wmax e.w < x then hp x else 0)
  have hf : ∀ e₁ : EighOut α n, wmax e₁.w = wmax e.w →
      (fun a => half hp cut e₁.w a * half hp cut e₁.w a) = fun a => f (e₁.w a) := fun e₁ h1 => by
    funext a
    simp only [half, kept, h1, decide_eq_true_eq, f]
  apply Matrix.of.injective
  rw [rootOfEigh_eq, rootOfEigh_eq, hf e rfl, hf e' hmax]
  exact Spectral.spectral_fn_unique f C _ _ e.w e'.w hs.ortho hs.recon hs'.ortho hs'.recon

variable [IsStrictOrderedRing α]

set_option linter.unusedSectionVars false in
theorem foldl_max_le (xs : List α) (x M : α) (hx : x ≤ M) (h : ∀ y ∈ xs, y ≤ M) : xs.foldl max x ≤ M :=
  List.foldlRecOn (motive := (· ≤ M)) xs max hx fun _ hs b hb => max_le hs (h b hb)

theorem cut_wmax_nonneg {cut : α} (hc : 0 ≤ cut) {w : Fin n → α} (hw : ∀ a, 0 ≤ w a) : 0 ≤ cut * wmax w :=
  mul_nonneg hc (wmax_nonneg w hw)

theorem kept_pos (cut : α) (hc : 0 ≤ cut) (w : Fin n → α) (hw : ∀ a, 0 ≤ w a) (a : Fin n)
    (h : kept cut w a = true) : 0 < w a :=
  lt_of_le_of_lt (cut_wmax_nonneg hc hw) (of_decide_eq_true h)

theorem half_pow_mul (hp : α → α) (cut : α) (e : EighOut α n) (hcut : 0 ≤ cut) (hw : ∀ a, 0 ≤ e.w a) (p : ℕ)
    (hpos : 0 < p) (hhp : HpSpec hp p) (a : Fin n) :
    (half hp cut e.w a * half hp cut e.w a) ^ p * e.w a = keep01 cut e a := by
  unfold half keep01
  by_cases hk : kept cut e.w a = true
  · simp only [hk, if_true]
    exact (hhp _ (kept_pos cut hcut e.w hw a hk)).2
  · simp only [hk, Bool.false_eq_true, if_false, mul_zero]
    rw [zero_pow (Nat.pos_iff_ne_zero.mp hpos), zero_mul]

theorem rootOfEigh_pow_mul (hp : α → α) (cut : α) (e : EighOut α n) (C : Matrix (Fin n) (Fin n) α) (hs : EighSpec C e) (hcut : 0 ≤ cut)
    (hw : ∀ a, 0 ≤ e.w a) (p : ℕ) (hpos : 0 < p) (hhp : HpSpec hp p) :
    (Matrix.of (rootOfEigh hp cut e)) ^ p * C = projM cut e := by
  rw [rootOfEigh_eq, Spectral.vdv_pow _ hs.ortho, ← hs.recon, projM, Spectral.vdv_mul _ hs.ortho,
    funext (half_pow_mul hp cut e hcut hw p hpos hhp)]

theorem retained_vec_zero {C : Matrix (Fin n) (Fin n) α} {e : EighOut α n} (hs : EighSpec C e) (cut : α)
    (hcut : 0 ≤ cut) (hw : ∀ a, 0 ≤ e.w a) (i : Fin n) (hrow : ∀ j, C i j = 0) (a : Fin n)
    (hk : kept cut e.w a = true) : e.V i a = 0 :=
  Spectral.eigvec_zero_of_row_zero hs.ortho hs.recon i hrow a (kept_pos cut hcut e.w hw a hk).ne'

theorem rootOfEigh_zero_row {C : Matrix (Fin n) (Fin n) α} {e : EighOut α n} (hs : EighSpec C e) (hp : α → α) (cut : α)
    (hcut : 0 ≤ cut) (hw : ∀ a, 0 ≤ e.w a) (i : Fin n) (hrow : ∀ j, C i j = 0) (j : Fin n) :
    rootOfEigh hp cut e i j = 0 := by
  unfold rootOfEigh
  rw [sumFin_eq]
  apply Finset.sum_eq_zero
  intro a _
  by_cases hk : kept cut e.w a = true
  · rw [retained_vec_zero hs cut hcut hw i hrow a hk]; ring
  · simp only [half, hk, Bool.false_eq_true, if_false]; ring

end Root

section Pad
variable {α : Type} [Field α] {n : ℕ}

/-- `blockdiag(f, 0)`: a square array extended by `k` zero rows and columns -/
def padFn (k : ℕ) (f : Fin n → Fin n → α) : Fin (n + k) → Fin (n + k) → α :=
  fun i j => Fin.addCases (fun i' => Fin.addCases (fun j' => f i' j') (fun _ => 0) j) (fun _ => 0) i

/-- the eigendecomposition `(V ⊕ 1, w ⊕ 0)` of `blockdiag(C, 0)` built from one of `C` -/
def padEigh (k : ℕ) (e : EighOut α n) : EighOut α (n + k) where
  w := Fin.addCases e.w (fun _ => 0)
  V := fun i a => Fin.addCases
    (fun i' => Fin.addCases (fun a' => e.V i' a') (fun _ => 0) a)
    (fun i'' => Fin.addCases (fun _ => 0) (fun a'' => if i'' = a'' then 1 else 0) a) i

@[simp] theorem padFn_ll (k : ℕ) (f : Fin n → Fin n → α) (i j : Fin n) :
    padFn k f (Fin.castAdd k i) (Fin.castAdd k j) = f i j := by simp [padFn]
@[simp] theorem padFn_lr (k : ℕ) (f : Fin n → Fin n → α) (i : Fin n) (j : Fin k) :
    padFn k f (Fin.castAdd k i) (Fin.natAdd n j) = 0 := by simp [padFn]
@[simp] theorem padFn_r (k : ℕ) (f : Fin n → Fin n → α) (i : Fin k) (j : Fin (n + k)) :
    padFn k f (Fin.natAdd n i) j = 0 := by simp [padFn]

@[simp] theorem padEigh_w_l (k : ℕ) (e : EighOut α n) (a : Fin n) : (padEigh k e).w (Fin.castAdd k a) = e.w a := by
  simp [padEigh]
@[simp] theorem padEigh_w_r (k : ℕ) (e : EighOut α n) (a : Fin k) : (padEigh k e).w (Fin.natAdd n a) = 0 := by
  simp [padEigh]
@[simp] theorem padEigh_V_ll (k : ℕ) (e : EighOut α n) (i a : Fin n) :
    (padEigh k e).V (Fin.castAdd k i) (Fin.castAdd k a) = e.V i a := by simp [padEigh]
@[simp] theorem padEigh_V_rl (k : ℕ) (e : EighOut α n) (i : Fin k) (a : Fin n) :
    (padEigh k e).V (Fin.natAdd n i) (Fin.castAdd k a) = 0 := by simp [padEigh]

/-- `[[A, B], [C, D]]` indexed by `Fin (n + k)` -/
abbrev blocks {k : ℕ} (A : Matrix (Fin n) (Fin n) α) (B : Matrix (Fin n) (Fin k) α) (C : Matrix (Fin k) (Fin n) α)
    (D : Matrix (Fin k) (Fin k) α) : Matrix (Fin (n + k)) (Fin (n + k)) α :=
  (fromBlocks A B C D).submatrix finSumFinEquiv.symm finSumFinEquiv.symm

theorem padFn_eq_blocks (k : ℕ) (C : Matrix (Fin n) (Fin n) α) : Matrix.of (padFn k C) = blocks C 0 0 0 := by
  ext i j
  induction i using Fin.addCases <;> induction j using Fin.addCases <;> simp [padFn]

theorem padEigh_V_eq_blocks (k : ℕ) (e : EighOut α n) : Matrix.of (padEigh k e).V = blocks (Matrix.of e.V) 0 0 1 := by
  ext i j
  induction i using Fin.addCases <;> induction j using Fin.addCases <;> simp [padEigh, Matrix.one_apply]

theorem padEigh_w_eq_blocks (k : ℕ) (e : EighOut α n) : diagonal (padEigh k e).w = blocks (diagonal e.w) 0 0 0 := by
  have : (padEigh k e).w = Sum.elim e.w 0 ∘ finSumFinEquiv.symm := by
    funext i
    induction i using Fin.addCases <;> simp [padEigh]
  rw [this, ← submatrix_diagonal_equiv, ← fromBlocks_diagonal, Pi.zero_def, diagonal_zero]

theorem padEigh_spec (k : ℕ) (C : Matrix (Fin n) (Fin n) α) (e : EighOut α n) (hs : EighSpec C e) :
    EighSpec (Matrix.of (padFn k C)) (padEigh k e) where
  ortho := by
    rw [padEigh_V_eq_blocks, transpose_submatrix, submatrix_mul_equiv, fromBlocks_transpose, fromBlocks_multiply]
    simp only [hs.ortho, transpose_zero, transpose_one, Matrix.zero_mul, Matrix.mul_zero, Matrix.mul_one, add_zero,
      zero_add, fromBlocks_one, submatrix_one_equiv]
  recon := by
    rw [padEigh_V_eq_blocks, padEigh_w_eq_blocks, padFn_eq_blocks, transpose_submatrix, submatrix_mul_equiv,
      submatrix_mul_equiv, fromBlocks_transpose, fromBlocks_multiply, fromBlocks_multiply]
    simp only [hs.recon, transpose_zero, transpose_one, Matrix.zero_mul, Matrix.mul_zero, Matrix.mul_one, add_zero]

/-- a square array on `Fin (n + k)` is `blockdiag(f, 0)` as soon as its real block is `f` and the rest vanishes -/
theorem eq_padFn {k : ℕ} {g : Fin (n + k) → Fin (n + k) → α} {f : Fin n → Fin n → α}
    (hll : ∀ i j, g (Fin.castAdd k i) (Fin.castAdd k j) = f i j)
    (hlr : ∀ i j, g (Fin.castAdd k i) (Fin.natAdd n j) = 0) (hr : ∀ i j, g (Fin.natAdd n i) j = 0) : g = padFn k f := by
  funext i j
  induction i using Fin.addCases with
  | left i =>
    induction j using Fin.addCases with
    | left j => rw [hll, padFn_ll]
    | right j => rw [hlr, padFn_lr]
  | right i => rw [hr, padFn_r]

theorem padFn_gram (k m : ℕ) (G : Fin n → Fin m → α) (G' : Fin (n + k) → Fin m → α)
    (hl : ∀ i c, G' (Fin.castAdd k i) c = G i c) (hr : ∀ i c, G' (Fin.natAdd n i) c = 0) :
    (fun i j => ∑ c, G' i c * G' j c) = padFn k (fun i j => ∑ c, G i c * G j c) :=
  eq_padFn (fun i j => by simp only [hl]) (fun i j => by simp only [hr, mul_zero, Finset.sum_const_zero])
    (fun i j => by simp only [hr, zero_mul, Finset.sum_const_zero])

variable [LinearOrder α]

theorem padFn_ema (k : ℕ) (decay : α) (S N : Fin n → Fin n → α) :
    (fun i j => emaScalar decay (padFn k S i j) (padFn k N i j)) = padFn k (fun i j => emaScalar decay (S i j) (N i j)) := by
  have h0 : emaScalar decay 0 0 = 0 := by simp [emaScalar]
  exact eq_padFn (fun i j => by simp only [padFn_ll]) (fun i j => by simp only [padFn_lr, h0])
    (fun i j => by simp only [padFn_r, h0])

theorem wmax_padEigh (k : ℕ) (e : EighOut α n) (hw : ∀ a, 0 ≤ e.w a) : wmax (padEigh k e).w = wmax e.w := by
  apply wmax_eq_of
  · intro a
    induction a using Fin.addCases with
    | left a => simpa using le_wmax e.w a
    | right a => simpa using wmax_nonneg e.w hw
  · rcases wmax_attained e.w with ⟨a, ha⟩ | ⟨h0, hz⟩
    · exact Or.inl ⟨Fin.castAdd k a, by simpa using ha⟩
    · by_cases hk : k = 0
      · exact Or.inr ⟨by omega, hz⟩
      · exact Or.inl ⟨Fin.natAdd n ⟨0, Nat.pos_of_ne_zero hk⟩, by rw [padEigh_w_r]; exact hz⟩

variable [IsStrictOrderedRing α]

theorem rootOfEigh_padEigh (hp : α → α) (cut : α) (hcut : 0 ≤ cut) (k : ℕ) (e : EighOut α n) (hw : ∀ a, 0 ≤ e.w a) :
    rootOfEigh hp cut (padEigh k e) = padFn k (rootOfEigh hp cut e) := by
  -- the maximum is unchanged, so old eigenvalues are retained as before; the new zeros are never `> cut * max ≥ 0`
  have hl : ∀ a : Fin n, half hp cut (padEigh k e).w (Fin.castAdd k a) = half hp cut e.w a := fun a => by
    unfold half kept
    rw [wmax_padEigh k e hw, padEigh_w_l]
  have hr : ∀ a : Fin k, half hp cut (padEigh k e).w (Fin.natAdd n a) = 0 := fun a => by
    have : ¬ (cut * wmax e.w < 0) := not_lt.mpr (cut_wmax_nonneg hcut hw)
    unfold half kept
    rw [wmax_padEigh k e hw, padEigh_w_r, decide_eq_false this]
    rfl
  funext i j
  simp only [rootOfEigh, sumFin_eq]
  rw [Fin.sum_univ_add]
  simp only [hl, hr, zero_mul, Finset.sum_const_zero, add_zero]
  induction i using Fin.addCases with
  | left i =>
    induction j using Fin.addCases with
    | left j => simp only [padEigh_V_ll, padFn_ll, rootOfEigh, sumFin_eq]
    | right j => simp only [padEigh_V_rl, mul_zero, Finset.sum_const_zero, padFn_lr]
  | right i => simp only [padEigh_V_rl, mul_zero, zero_mul, Finset.sum_const_zero, padFn_r]

theorem rootOfEigh_padFn (hp : α → α) (cut : α) (hcut : 0 ≤ cut) (C : Matrix (Fin n) (Fin n) α)
    (e : EighOut α n) (hs : EighSpec C e) (hw : ∀ a, 0 ≤ e.w a) (k : ℕ) (e' : EighOut α (n + k))
    (hs' : EighSpec (Matrix.of (padFn k C)) e') :
    rootOfEigh hp cut e' = padFn k (rootOfEigh hp cut e) := by
  rw [rootOfEigh_unique hp cut _ e' (padEigh k e) hs' (padEigh_spec k C e hs), rootOfEigh_padEigh hp cut hcut k e hw]

end Pad

section Stats
open Finset
variable {α : Type} [Field α] [LinearOrder α]

/-- one entry of one block statistic along a history: at update number `c` the entry becomes
`_ema_update(S, new c)` when `c % update_statistics_freq == 0` and stays otherwise (the gate of `shampooTx`) -/
def statRun (decay : α) (sf : ℕ) (new : ℕ → α) (S₀ : α) : ℕ → α
  | 0 => S₀
  | T + 1 => if T % sf = 0 then emaScalar decay (statRun decay sf new S₀ T) (new T) else statRun decay sf new S₀ T

/-- number of statistics refreshes among the updates `0 … t-1` -/
def refreshes (sf t : ℕ) : ℕ := ((range t).filter fun s => s % sf = 0).card

theorem refreshes_succ (sf t : ℕ) : refreshes sf (t + 1) = refreshes sf t + if t % sf = 0 then 1 else 0 := by
  rw [refreshes, refreshes, card_filter, card_filter, sum_range_succ]

theorem refreshes_mono (sf : ℕ) {s t : ℕ} (h : s ≤ t) : refreshes sf s ≤ refreshes sf t := by
  unfold refreshes
  exact card_le_card (filter_subset_filter _ (range_mono h))

/-- **closed form** for an `_ema_update` of the shape `old ↦ a·old + b·new` (`(a, b) = (1, 1)` for `second_moment_decay = 1`,
`(β, 1-β)` otherwise): a refresh at step `t` enters with weight `b·a^(number of later refreshes)`, the initial value with
`a^(number of refreshes)`; steps that are not refresh steps neither add nor decay anything -/
theorem statRun_affine (decay a b : α) (hab : ∀ old new, emaScalar decay old new = a * old + b * new)
    (sf : ℕ) (new : ℕ → α) (S₀ : α) (T : ℕ) :
    statRun decay sf new S₀ T = a ^ refreshes sf T * S₀ +
      ∑ t ∈ range T, if t % sf = 0 then b * a ^ (refreshes sf T - refreshes sf (t + 1)) * new t else 0 := by
  induction T with
  | zero => rw [statRun, sum_range_zero, add_zero, show refreshes sf 0 = 0 from rfl, pow_zero, one_mul]
  | succ T ih =>
    rw [statRun, sum_range_succ, refreshes_succ]
    by_cases hT : T % sf = 0
    · simp only [hT, if_true, hab, ih, Nat.sub_self, pow_zero, mul_one]
      -- one more refresh: every earlier weight gains a factor `a`
      have hsum : ∀ t ∈ range T,
          (if t % sf = 0 then b * a ^ (refreshes sf T + 1 - refreshes sf (t + 1)) * new t else 0)
            = a * (if t % sf = 0 then b * a ^ (refreshes sf T - refreshes sf (t + 1)) * new t else 0) := by
        intro t ht
        have hle : refreshes sf (t + 1) ≤ refreshes sf T := refreshes_mono sf (Nat.succ_le_of_lt (mem_range.mp ht))
        split
        · rw [Nat.sub_add_comm hle, pow_succ]; ring
        · ring
      rw [sum_congr rfl hsum, ← mul_sum, pow_succ]
      ring
    · simp only [hT, if_false, add_zero, ih]

end Stats

section Flat
open PrecondVerif.Shapes
variable {α : Type} [Zero α]

theorem ofFlat_get (shape : List Nat) (a : Array α) (idx : List Nat) :
    (ofFlat shape a).get idx = rd a (ravel shape idx) := rfl

theorem ofFlatL_get (shape : List Nat) (g : List α) (idx : List Nat) :
    (ofFlatL shape g).get idx = rd g.toArray (ravel shape idx) := rfl

theorem flat_ofFlatL (shape : List Nat) (g : List α) (h : g.length = prod shape) :
    (ofFlatL shape g).flat = g := by
  have e : (ofFlatL shape g).flat = (allIdx shape).map fun idx => g.getD (ravel shape idx) 0 :=
    List.map_congr_left fun idx _ => by rw [ofFlatL_get, rd, Array.getD_eq_getD_getElem?, List.getElem?_toArray,
      List.getD_eq_getElem?_getD]
  rw [e, allIdx_map_comp_ravel shape fun k => g.getD k 0, ← h, range_map_getD_self]

theorem flat_get (t : Tensor α) {sh : List Nat} (hs : t.shape = sh) (idx : List Nat) (h : inBounds sh idx) :
    rd t.flat.toArray (ravel sh idx) = t.get idx := by
  subst hs
  rw [rd, Array.getD_eq_getD_getElem?, List.getElem?_toArray, Tensor.flat, List.getElem?_map,
    allIdx_getElem_ravel _ _ h]
  rfl

theorem rd_matToArr {n : Nat} (M : Fin n → Fin n → α) (i j : Fin n) : rd (matToArr M) (i.val * n + j.val) = M i j := by
  unfold rd matToArr
  have hn : 0 < n := Nat.lt_of_le_of_lt (Nat.zero_le _) i.isLt
  rw [Array.getD_eq_getD_getElem?, List.getElem?_toArray,
    flatMap_getElem?_of_length (fun i => (List.finRange n).map fun j => M i j) n hn (by simp)]
  rw [(divmod_of_lt i.val j.val n j.isLt).1, (divmod_of_lt i.val j.val n j.isLt).2]
  simp

end Flat

section Arrays

theorem sumRange_eq_fin {α : Type} [AddCommMonoid α] (n : Nat) (f : Nat → α) : sumRange n f = ∑ c : Fin n, f c.val := by
  unfold sumRange
  rw [Fin.sum_univ_def, ← List.map_coe_finRange_eq_range, List.map_map]
  rfl

set_option linter.unusedSectionVars false
variable {α : Type} [Zero α] [One α] [Add α] [Sub α] [Mul α] [LT α] [DecidableLT α] [BEq α] [Max α]

theorem rd_tab (n : ℕ) (f : ℕ → α) (k : ℕ) (h : k < n) : rd (tab n f) k = f k := by
  simp [rd, tab, h]

theorem applyAxis_get (v : AxView) (R x : Array α) (o i r : ℕ) (ho : o < v.outer) (hi : i < v.d) (hr : r < v.inner) :
    rd (applyAxis v R x) ((o * v.d + i) * v.inner + r) =
      sumRange v.d fun c => rd R (i * v.d + c) * rd x ((o * v.d + c) * v.inner + r) := by
  have hlt : (o * v.d + i) * v.inner + r < v.outer * v.d * v.inner :=
    Shapes.mul_add_lt_mul _ _ _ _ (Shapes.mul_add_lt_mul o v.outer v.d i ho hi) hr
  unfold applyAxis
  rw [rd_tab _ _ _ hlt]
  simp only [Shapes.divmod_of_lt _ r _ hr, Shapes.divmod_of_lt o i _ hi]

theorem blockRoot_eq (eigh : EighFn α) (hp : α → α) (cut : α) (n : ℕ) (C : Array α) :
    blockRoot eigh hp cut n C = matToArr (rootOfEigh hp cut (eigh n (arrToMat n C))) := rfl

theorem blockPrecondUpdate_roots (eigh : EighFn α) (hp : α → α) (cut : α) (dims : List ℕ) (b : BlockSt α) :
    (blockPrecondUpdate eigh hp cut dims b).roots = List.zipWith (fun d C => blockRoot eigh hp cut d C) dims b.stats := rfl

variable {P : Type}

/-- the definition of `shampooTx.update` with its `let`s named -/
theorem shampoo_update_cadence (eigh : EighFn α) (hp : ℕ → α → α) (cut decay : α) (bs sf pf : ℕ) (ps : List ℕ)
    (u : List α) (st : ShState α) (x : P) :
    let m := Shapes.blocksMetadata bs ps
    let Bt := Shapes.blockify (ofFlatL ps u) m
    let xs := (List.range m.numBlocks).map fun n => extractBlock Bt.flat.toArray Bt.shape m.blockSizes m.blocksAxis n
    let bl₁ := if st.count % sf = 0 then List.zipWith (blockStatsUpdate decay m.blockSizes) xs st.blocks else st.blocks
    let bl₂ := if st.count % pf = 0 then bl₁.map (blockPrecondUpdate eigh (hp (shampooExponent ps)) cut m.blockSizes) else bl₁
    ((shampooTx (P := P) eigh hp cut decay bs sf pf ps).update u st x).2 = ⟨st.count + 1, bl₂⟩ ∧
    ((shampooTx (P := P) eigh hp cut decay bs sf pf ps).update u st x).1 =
      (Shapes.deblockify (ofFlat Bt.shape
        (assembleBlocks (List.zipWith (blockApply m.blockSizes) xs bl₂) Bt.shape m.blockSizes m.blocksAxis)) m).flat := by
  intro m Bt xs bl₁ bl₂
  exact ⟨rfl, rfl⟩

end Arrays

end PrecondVerif.Tearfree
