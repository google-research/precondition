/-
The quantized preconditioner slot: the stored value is C11's quantized triple `QV` (payload, diagonal, bucket sizes), the
root routine is quantize ∘ Newton.
-/
import PrecondVerif.Lemmas.ComposeForms
import PrecondVerif.Props.C11

namespace PrecondVerif.Compose
open PrecondVerif.InvRoot PrecondVerif.Gate PrecondVerif.Schedule PrecondVerif.DShampoo PrecondVerif.Quant

section Quantized
variable {α : Type} [Field α] [LinearOrder α] [IsStrictOrderedRing α] [HasFloor α] [LawfulFloor α]

/-- `_pmap_quantized_compute_preconditioners` for one slot: the Newton root of the statistic, quantized with `Nq` buckets
per column (`QuantizedValue.from_float_value`), reported error unchanged -/
def quantNewtonSlotRoot (N : NewtonCfg α) (rep : α → XF) (Nq : Nat) (ed : Bool) (d : Nat) (L : Mx α) (_prev : QV α)
    (_f : Unit) : QV α × XF :=
  (quantize Nq d d ed (newtonSlotRootMx N rep d L Mx.zero ()).1, (newtonSlotRootMx N rep d L Mx.zero ()).2)

/-- certificate of a quantized Newton root -/
def QuantCert (N : NewtonCfg α) (rep : α → XF) (Nq : Nat) (ed : Bool) (d : Nat) (L : Mx α) (q : QV α) (e : XF) : Prop :=
  ∃ X : Mx α, NewtonCert N rep d L X e ∧ q = quantize Nq d d ed X ∧
    ∀ i c, i < d → |dequantize ed q i c - X i c| ≤ q.bucket c / 2

theorem quantNewtonSlotRoot_cert (N : NewtonCfg α) (hN : NewtonOK N) (rep : α → XF) (Nq : Nat) (hNq : 1 ≤ Nq)
    (ed : Bool) (d : Nat) (hd : d ≠ 0) (L : Mx α) (prev : QV α) (f : Unit) :
    QuantCert N rep Nq ed d L (quantNewtonSlotRoot N rep Nq ed d L prev f).1
      (quantNewtonSlotRoot N rep Nq ed d L prev f).2 :=
  ⟨_, newtonSlotRootMx_cert N hN rep d hd L Mx.zero (), rfl,
    fun i c hi => C11.roundtrip_half_bucket Nq d d ed _ hNq i c hi⟩

end Quantized
end PrecondVerif.Compose
