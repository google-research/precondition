/-
Lemmas for property C08: a matrix routine written with sums and maxima over `[0,n)` does not see the zero padding.

`Supp s A` : the index function `A` vanishes outside `[0,s)²`; `IsTab s a` : the array `a` is an `s × s` table;
`embed N a` : zero-extension.  Every array-level operation of `Model/BlockDiag.lean` commutes with `embed`
(`mulA_embed`, `affA_embed`, …, `errA_embed`, `froSqA_embed`), hence so do the Newton step (`iterBody_embed`), the inner
loop (`inner_embed`, two loops in lockstep), one try (`tryRoot_embed`), the retry loop (`outer_embed`) and the whole
routine (`rootA_padSq`, `paddedRoot_eq`).  `regroup_map_flatten`, `treeRootsG_eq_map`, `leafUpdateG_eq`: batching is `map`.
Tearfree's batched cut is the per-block cut (`batchedMask_eq_map`, `tfBatched_eq_map`).  Slot plan of a leaf: count and
position of every statistic slot (`length_slotsFrom`, `slotsFrom_getElem`, `indexStarts_getElem`).

Eigh root: `blockdiag(R, 0)` has the eigendecomposition `blockdiag(U, I)` (`padU`, `padE`, `padU_sandwich`); a kernel that
returns it (`KernelPadOK`) gives `blockdiag(root R, 0)` (`eighRootA_padSq`).  Without that hypothesis: the zero-extended
decomposition meets the `eigh` specification of the padded matrix (`DsEighSpec.pad`), the root does not depend on which
spec-meeting decomposition is used (`eighValF_unique`), so any spec-meeting kernel gives the same
(`eighRootA_padSq_of_spec`); `diagKernel_meetsSpec`: the specification is satisfiable.
-/
import PrecondVerif.Model.BlockDiag
import Mathlib.Algebra.BigOperators.Fin
import PrecondVerif.Lemmas.Spectral
import PrecondVerif.Lemmas.Basic.Fold
import PrecondVerif.Lemmas.Basic.FuelLoop

namespace PrecondVerif.BlockDiag
variable {α : Type}

/-- vanishes outside `[0,s)²` -/
def Supp [Zero α] (s : Nat) (A : F α) : Prop := ∀ i j, (s ≤ i ∨ s ≤ j) → A i j = 0

theorem Supp.mono [Zero α] {s N : Nat} {A : F α} (h : Supp s A) (hs : s ≤ N) : Supp N A :=
  fun i j hij => h i j (by omega)

theorem rdM_tabM [Zero α] (n : Nat) (f : F α) (i j : Nat) :
    rdM (tabM n f) i j = if i < n ∧ j < n then f i j else 0 := by
  unfold rdM tabM
  by_cases hi : i < n
  · by_cases hj : j < n
    · simp [Array.getD, hi, hj]
    · simp [Array.getD, hi, hj]
  · simp [Array.getD, hi]

theorem rdM_tabM_of_supp [Zero α] {n : Nat} {f : F α} (h : Supp n f) : rdM (tabM n f) = f := by
  funext i j
  rw [rdM_tabM]
  split
  · rfl
  · exact (h i j (by omega)).symm

theorem tabM_congr (n : Nat) {f g : F α} (h : ∀ i j, i < n → j < n → f i j = g i j) : tabM n f = tabM n g := by
  unfold tabM
  congr 1; funext i; congr 1; funext j
  exact h i.val j.val i.isLt j.isLt

/-- an `s × s` table (what `cutA s` gives back unchanged) -/
def IsTab (s : Nat) (a : A2 α) : Prop := ∃ f : F α, a = tabM s f

theorem isTab_tabM (s : Nat) (f : F α) : IsTab s (tabM s f) := ⟨f, rfl⟩

theorem IsTab.supp [Zero α] {s : Nat} {a : A2 α} (h : IsTab s a) : Supp s (rdM a) := by
  obtain ⟨f, rfl⟩ := h
  intro i j hij
  rw [rdM_tabM, if_neg]; omega

theorem rdM_embed [Zero α] {s N : Nat} {a : A2 α} (h : IsTab s a) (hs : s ≤ N) : rdM (embed N a) = rdM a :=
  rdM_tabM_of_supp (h.supp.mono hs)

theorem embed_tabM [Zero α] {s N : Nat} {f : F α} (h : Supp s f) : embed N (tabM s f) = tabM N f := by
  unfold embed; rw [rdM_tabM_of_supp h]

theorem tabM_window [Zero α] (s N : Nat) (f : F α) :
    tabM N (fun i j => if i < s ∧ j < s then f i j else 0) = embed N (tabM s f) :=
  tabM_congr N fun i j _ _ => (rdM_tabM s f i j).symm

theorem cutA_embed [Zero α] {s N : Nat} {a : A2 α} (h : IsTab s a) (hs : s ≤ N) : cutA s (embed N a) = a := by
  unfold cutA
  rw [rdM_embed h hs]
  obtain ⟨f, rfl⟩ := h
  exact tabM_congr s fun i j hi hj => by rw [rdM_tabM, if_pos ⟨hi, hj⟩]

section sums
variable [AddMonoid α]

theorem sumTo_succ (n : Nat) (f : Nat → α) : sumTo (n + 1) f = sumTo n f + f n := by
  unfold sumTo; rw [List.range_succ, List.foldl_append]; rfl

theorem sumTo_zero_fun (n : Nat) (f : Nat → α) (h : ∀ l, l < n → f l = 0) : sumTo n f = 0 :=
  List.foldlRecOn (motive := (· = 0)) _ _ rfl fun _ ha l hl => by rw [ha, h l (List.mem_range.mp hl), add_zero]

theorem sumTo_pad {s N : Nat} (f : Nat → α) (h : ∀ l, s ≤ l → f l = 0) (hs : s ≤ N) : sumTo N f = sumTo s f := by
  induction N, hs using Nat.le_induction with
  | base => rfl
  | succ k hk ih => rw [sumTo_succ, ih, h k hk, add_zero]

theorem sumTo_congr (n : Nat) {f g : Nat → α} (h : ∀ l, l < n → f l = g l) : sumTo n f = sumTo n g :=
  List.foldl_ext _ _ _ fun a l hl => by rw [h l (List.mem_range.mp hl)]

theorem sumTo_add (K : Nat) : ∀ (s : Nat) (f : Nat → α), sumTo (K + s) f = sumTo K f + sumTo s (fun l => f (K + l))
  | 0, f => by simp [sumTo]
  | s + 1, f => by
    rw [← Nat.add_assoc, sumTo_succ, sumTo_succ, sumTo_add K s f, add_assoc]

theorem sumTo_single (K a : Nat) (f : Nat → α) (h : ∀ k, k < K → k ≠ a → f k = 0) :
    sumTo K f = if a < K then f a else 0 := by
  induction K with
  | zero => rfl
  | succ m ih =>
    rw [sumTo_succ, ih fun k hk => h k (by omega)]
    by_cases ham : a < m
    · rw [if_pos ham, if_pos (by omega), h m (by omega) (by omega), add_zero]
    · rw [if_neg ham, zero_add]
      by_cases hm : a = m
      · rw [hm, if_pos (by omega)]
      · rw [if_neg (by omega), h m (by omega) fun e => hm e.symm]

end sums

theorem sumTo_eq_sum [AddCommMonoid α] (n : Nat) (f : Nat → α) : sumTo n f = ∑ k : Fin n, f k.val := by
  induction n with
  | zero => simp [sumTo]
  | succ m ih => rw [sumTo_succ, ih, Fin.sum_univ_castSucc]; rfl

section maxes
variable [LinearOrder α]

theorem maxS_eq_max (a b : α) : maxS a b = max a b := by
  rw [maxS, max_def_lt]

theorem maxTo_succ (n : Nat) (f : Nat → α) (init : α) : maxTo (n + 1) f init = maxS (maxTo n f init) (f n) := by
  unfold maxTo; rw [List.range_succ, List.foldl_append]; rfl

theorem le_maxTo (n : Nat) (f : Nat → α) (init : α) : init ≤ maxTo n f init :=
  rel_foldl (· ≤ ·) le_refl le_trans _ (fun a l => by rw [maxS_eq_max]; exact le_max_left _ _) (List.range n) init

theorem maxTo_pad [Zero α] {s N : Nat} (f : Nat → α) (init : α) (h0 : 0 ≤ init) (h : ∀ l, s ≤ l → f l = 0) (hs : s ≤ N) :
    maxTo N f init = maxTo s f init := by
  induction N, hs using Nat.le_induction with
  | base => rfl
  | succ k hk ih =>
    rw [maxTo_succ, ih, h k hk, maxS_eq_max, max_eq_left (le_trans h0 (le_maxTo _ _ _))]

theorem maxTo_congr (n : Nat) {f g : Nat → α} (init : α) (h : ∀ l, l < n → f l = g l) : maxTo n f init = maxTo n g init :=
  List.foldl_ext _ _ _ fun a l hl => by rw [h l (List.mem_range.mp hl)]

theorem maxTo_zero [Zero α] (n : Nat) (f : Nat → α) (h : ∀ l, l < n → f l = 0) : maxTo n f 0 = 0 :=
  List.foldlRecOn (motive := (· = 0)) _ _ rfl fun _ ha l hl => by
    rw [ha, h l (List.mem_range.mp hl), maxS_eq_max, max_self]

theorem absS_zero [Zero α] [Neg α] : absS (0 : α) = 0 := by unfold absS; simp

end maxes

section matSemiring
variable [Semiring α]

theorem supp_eyeS (s : Nat) : Supp s (eyeS s : F α) := by
  intro i j h; unfold eyeS; rw [if_neg]; omega

theorem Supp.add {s : Nat} {A B : F α} (hA : Supp s A) (hB : Supp s B) : Supp s fun i j => A i j + B i j :=
  fun i j h => by show A i j + B i j = 0; rw [hA i j h, hB i j h, add_zero]

theorem Supp.const_mul {s : Nat} {A : F α} (c : α) (hA : Supp s A) : Supp s fun i j => c * A i j :=
  fun i j h => by show c * A i j = 0; rw [hA i j h, mul_zero]

theorem Supp.mul_const {s : Nat} {A : F α} (hA : Supp s A) (c : α) : Supp s fun i j => A i j * c :=
  fun i j h => by show A i j * c = 0; rw [hA i j h, zero_mul]

theorem mulF_pad {s N : Nat} {A : F α} (B : F α) (hA : Supp s A) (hs : s ≤ N) : mulF N A B = mulF s A B := by
  funext i j; unfold mulF
  exact sumTo_pad _ (fun l hl => by rw [hA i l (Or.inr hl), zero_mul]) hs

theorem supp_mulF {s : Nat} (n : Nat) {A B : F α} (hA : Supp s A) (hB : Supp s B) : Supp s (mulF n A B) := by
  intro i j h; unfold mulF
  apply sumTo_zero_fun
  intro l _
  rcases h with h | h
  · rw [hA i l (Or.inl h), zero_mul]
  · rw [hB l j (Or.inr h), mul_zero]

theorem froSqF_pad {s N : Nat} {A : F α} (hA : Supp s A) (hs : s ≤ N) : froSqF N A = froSqF s A := by
  unfold froSqF
  have inner : ∀ i, sumTo N (fun j => A i j * A i j) = sumTo s (fun j => A i j * A i j) := fun i =>
    sumTo_pad _ (fun l hl => by rw [hA i l (Or.inr hl), zero_mul]) hs
  simp only [inner]
  exact sumTo_pad _ (fun i hi => sumTo_zero_fun _ _ (fun l _ => by rw [hA i l (Or.inl hi), zero_mul])) hs

theorem mulA_embed {s N : Nat} {a b : A2 α} (ha : IsTab s a) (hb : IsTab s b) (hs : s ≤ N) :
    mulA N (embed N a) (embed N b) = embed N (mulA s a b) := by
  unfold mulA
  rw [rdM_embed ha hs, rdM_embed hb hs, embed_tabM (supp_mulF s ha.supp hb.supp), mulF_pad _ ha.supp hs]

theorem affA_embed {s N : Nat} (c1 c2 : α) {m : A2 α} (hm : IsTab s m) (hs : s ≤ N) :
    affA N s c1 c2 (embed N m) = embed N (affA s s c1 c2 m) := by
  unfold affA
  rw [rdM_embed hm hs]
  exact (embed_tabM (((supp_eyeS s).const_mul c1).add (hm.supp.const_mul c2))).symm

theorem smulA_embed {s N : Nat} (c : α) {m : A2 α} (hm : IsTab s m) (hs : s ≤ N) :
    smulA N c (embed N m) = embed N (smulA s c m) := by
  unfold smulA
  rw [rdM_embed hm hs]
  exact (embed_tabM (hm.supp.const_mul c)).symm

theorem blendA_embed {s N : Nat} (c d : α) {a b : A2 α} (ha : IsTab s a) (hb : IsTab s b) (hs : s ≤ N) :
    blendA N c d (embed N a) (embed N b) = embed N (blendA s c d a b) := by
  unfold blendA
  rw [rdM_embed ha hs, rdM_embed hb hs]
  exact (embed_tabM ((ha.supp.const_mul c).add (hb.supp.const_mul d))).symm

theorem dampA_embed {s N : Nat} {a : A2 α} (ha : IsTab s a) (ridge : α) (hs : s ≤ N) :
    dampA N s (embed N a) ridge = embed N (dampA s s a ridge) := by
  unfold dampA
  rw [rdM_embed ha hs]
  exact (embed_tabM (ha.supp.add ((supp_eyeS s).const_mul ridge))).symm

theorem h0A_embed {s N : Nat} (r : α) : h0A N s r = embed N (h0A s s r) :=
  (embed_tabM ((supp_eyeS s).mul_const r)).symm

theorem froSqA_embed {s N : Nat} {m : A2 α} (hm : IsTab s m) (hs : s ≤ N) : froSqA N (embed N m) = froSqA s m := by
  unfold froSqA
  rw [rdM_embed hm hs]
  exact froSqF_pad hm.supp hs

theorem matPowA_add_two (n : Nat) (m : A2 α) (k : Nat) : matPowA n m (k + 2) = mulA n m (matPowA n m (k + 1)) := rfl

theorem isTab_matPowA {s : Nat} {m : A2 α} (hm : IsTab s m) : ∀ k, IsTab s (matPowA s m k)
  | 0 => isTab_tabM _ _
  | 1 => hm
  | _ + 2 => isTab_tabM _ _

theorem matPowA_embed {s N : Nat} {m : A2 α} (hm : IsTab s m) (hs : s ≤ N) :
    ∀ k, 0 < k → matPowA N (embed N m) k = embed N (matPowA s m k)
  | 0, h => absurd h (by omega)
  | 1, _ => rfl
  | k + 2, _ => by
    rw [matPowA_add_two, matPowA_add_two, matPowA_embed hm hs (k + 1) (by omega), mulA_embed hm (isTab_matPowA hm _) hs]

theorem maskF_apply (s : Nat) (A : F α) (i j : Nat) : maskF s A i j = if i < s ∧ j < s then A i j else 0 := rfl

/-- masking forgets the identity block of `padSq` -/
theorem maskF_padSq_apply (s N : Nat) (a : A2 α) {i j : Nat} (hi : i < N) (hj : j < N) :
    maskF s (rdM (padSq s N a)) i j = maskF s (rdM a) i j := by
  rw [maskF_apply, maskF_apply]
  by_cases h : i < s ∧ j < s
  · rw [if_pos h, if_pos h, padSq, rdM_tabM, if_pos ⟨hi, hj⟩, padSqF, if_pos h]
  · rw [if_neg h, if_neg h]

theorem maskF_padSq {s N : Nat} (hs : s ≤ N) (a : A2 α) : maskF s (rdM (padSq s N a)) = maskF s (rdM a) := by
  funext i j
  by_cases h : i < N ∧ j < N
  · exact maskF_padSq_apply s N a h.1 h.2
  · rw [maskF_apply, maskF_apply, if_neg (by omega), if_neg (by omega)]

theorem maskA_padSq (s N : Nat) (a : A2 α) : maskA N s (padSq s N a) = embed N (maskA s s a) := by
  unfold maskA
  rw [embed_tabM]
  · exact tabM_congr N fun i j hi hj => maskF_padSq_apply s N a hi hj
  · intro i j h
    rw [maskF_apply, if_neg]; omega

end matSemiring

section matF
variable [Field α] [LinearOrder α]

theorem maxAbsF_pad {s N : Nat} {A : F α} (hA : Supp s A) (hs : s ≤ N) : maxAbsF N A = maxAbsF s A := by
  unfold maxAbsF
  have inner : ∀ i, maxTo N (fun j => absS (A i j)) 0 = maxTo s (fun j => absS (A i j)) 0 := fun i =>
    maxTo_pad _ 0 (le_refl _) (fun l hl => by rw [hA i l (Or.inr hl), absS_zero]) hs
  simp only [inner]
  exact maxTo_pad _ 0 (le_refl _)
    (fun i hi => maxTo_zero _ _ (fun l _ => by rw [hA i l (Or.inl hi), absS_zero])) hs

theorem errA_embed {s N : Nat} {m : A2 α} (hm : IsTab s m) (hs : s ≤ N) : errA N s (embed N m) = errA s s m := by
  unfold errA
  rw [rdM_embed hm hs]
  exact maxAbsF_pad (fun i j h => by rw [supp_eyeS s i j h, hm.supp i j h, sub_zero]) hs

end matF

section newton
variable [Field α] [LinearOrder α]

def embedSt (N : Nat) (st : St α) : St α := ⟨st.i, embed N st.m, embed N st.h, embed N st.hOld, st.err, st.ratio⟩

structure TabSt (s : Nat) (st : St α) : Prop where
  m : IsTab s st.m
  h : IsTab s st.h
  hOld : IsTab s st.hOld

theorem tabSt_iterBody {s : Nat} (c : Cfg α) {st : St α} (g : TabSt s st) : TabSt s (iterBody s s c st) :=
  ⟨isTab_tabM _ _, isTab_tabM _ _, g.h⟩

theorem iterBody_embed {s N : Nat} (c : Cfg α) (hp : 0 < c.p) {st : St α} (g : TabSt s st) (hs : s ≤ N) :
    iterBody N s c (embedSt N st) = embedSt N (iterBody s s c st) := by
  have hmi : IsTab s (affA s s (1 - -(1 / c.pA)) (-(1 / c.pA)) st.m) := isTab_tabM _ _
  have hpow := isTab_matPowA hmi c.p
  have hm' : IsTab s (mulA s (matPowA s (affA s s (1 - -(1 / c.pA)) (-(1 / c.pA)) st.m) c.p) st.m) := isTab_tabM _ _
  simp only [iterBody, embedSt]
  rw [affA_embed _ _ g.m hs, matPowA_embed hmi hs c.p hp, mulA_embed hpow g.m hs, mulA_embed g.h hmi hs,
    errA_embed hm' hs]

/-- the two inner loops run in lockstep through `a = embedSt N b`; `TabSt` rides along because the `*_embed` lemmas need
the three matrices of the small state to be `s × s` tables -/
theorem inner_embed {s N : Nat} (c : Cfg α) (hp : 0 < c.p) (hs : s ≤ N) (k : Nat) {st : St α} (g : TabSt s st) :
    inner N s c k (embedSt N st) = embedSt N (inner s s c k st) ∧ TabSt s (inner s s c k st) :=
  fuelLoop_rel (Rel := fun a b => a = embedSt N b ∧ TabSt s b) (loop₁ := inner N s c) (loop₂ := inner s s c)
    (cond₁ := fun st => decide (c.tol < st.err ∧ st.ratio < c.maxRatio))
    (cond₂ := fun st => decide (c.tol < st.err ∧ st.ratio < c.maxRatio))
    -- `inner` tests the proposition, `fuelLoop_rel` wants a `Bool`: `decide` goes in between
    (fun _ => rfl) (fun _ _ => (if_congr decide_eq_true_iff rfl rfl).symm)
    (fun _ => rfl) (fun _ _ => (if_congr decide_eq_true_iff rfl rfl).symm)
    (fun h => by rw [h.1]; rfl)
    (fun h => ⟨by rw [h.1, iterBody_embed c hp h.2 hs], tabSt_iterBody c h.2⟩) k ⟨rfl, g⟩

def embedTry (N : Nat) (t : Try α) : Try α := ⟨embed N t.h, t.err, t.iters, t.ratio⟩

omit [LinearOrder α] in
theorem embedTry_h (N : Nat) (t : Try α) : (embedTry N t).h = embed N t.h := rfl

omit [LinearOrder α] in
theorem embedTry_err (N : Nat) (t : Try α) : (embedTry N t).err = t.err := rfl

theorem tabSt_initSt {s : Nat} (c : Cfg α) (a : A2 α) (ridge : α) : TabSt s (initSt s s c a ridge) :=
  -- the ascriptions keep the unifier from searching through `initSt`
  ⟨(isTab_tabM _ _ : IsTab s (smulA s _ _)), (isTab_tabM _ _ : IsTab s (h0A s s _)), (isTab_tabM _ _ : IsTab s (h0A s s _))⟩

theorem initSt_embed {s N : Nat} (c : Cfg α) (hs : s ≤ N) {a : A2 α} (ha : IsTab s a) (ridge : α) :
    initSt N s c (embed N a) ridge = embedSt N (initSt s s c a ridge) := by
  have gd : IsTab s (dampA s s a ridge) := isTab_tabM _ _
  have gm : IsTab s (smulA s (zOf c (froSqA s (dampA s s a ridge))) (dampA s s a ridge)) := isTab_tabM _ _
  simp only [initSt, embedSt]
  rw [dampA_embed ha ridge hs, froSqA_embed gd hs, smulA_embed _ gd hs, errA_embed gm hs, ← h0A_embed]

theorem finishTry_embed {s N : Nat} (c : Cfg α) (hs : s ≤ N) {st : St α} (g : TabSt s st) :
    finishTry N s c (embedSt N st) = embedTry N (finishTry s s c st) := by
  simp only [finishTry, embedSt, embedTry]
  rw [errA_embed g.m hs, blendA_embed _ _ g.h g.hOld hs]
  rfl

theorem tryRoot_embed {s N : Nat} (c : Cfg α) (hp : 0 < c.p) (hs : s ≤ N) {a : A2 α} (ha : IsTab s a) (ridge : α) :
    tryRoot N s c (embed N a) ridge = embedTry N (tryRoot s s c a ridge) := by
  obtain ⟨h1, h2⟩ := inner_embed c hp hs c.fuel (tabSt_initSt c a ridge)
  unfold tryRoot
  rw [initSt_embed c hs ha, h1, finishTry_embed c hs h2]

theorem isTab_tryRoot {s : Nat} (c : Cfg α) (a : A2 α) (r : α) : IsTab s (tryRoot s s c a r).h :=
  (isTab_tabM _ _ : IsTab s (blendA s _ _ _ _))

theorem outer_succ (n s : Nat) (c : Cfg α) (a : A2 α) (ridge : α) (k i : Nat) (t : Try α) :
    outer n s c a ridge (k + 1) i t =
      if c.retryThr < (tryRoot n s c a (ridge * natPow c.ten i)).err then
        outer n s c a ridge k (i + 1) (tryRoot n s c a (ridge * natPow c.ten i))
      else (i + 1, tryRoot n s c a (ridge * natPow c.ten i)) := rfl

theorem outer_embed {s N : Nat} (c : Cfg α) (hp : 0 < c.p) (hs : s ≤ N) {a : A2 α} (ha : IsTab s a) (ridge : α)
    (k i : Nat) (t : Try α) :
    outer N s c (embed N a) ridge k i (embedTry N t)
      = ((outer s s c a ridge k i t).1, embedTry N (outer s s c a ridge k i t).2) ∧
    (IsTab s t.h → IsTab s (outer s s c a ridge k i t).2.h) := by
  induction k generalizing i t with
  | zero => exact ⟨rfl, id⟩
  | succ k ih =>
    rw [outer_succ, outer_succ, tryRoot_embed c hp hs ha, embedTry_err]
    by_cases hc : c.retryThr < (tryRoot s s c a (ridge * natPow c.ten i)).err
    · simp only [if_pos hc]
      exact ⟨(ih (i + 1) _).1, fun _ => (ih (i + 1) _).2 (isTab_tryRoot c a _)⟩
    · simp only [if_neg hc]
      exact ⟨trivial, fun _ => isTab_tryRoot c a _⟩

theorem rootA_padSq {s N : Nat} (c : Cfg α) (hp : 0 < c.p) (hs : s ≤ N) (ridge : α) (a : A2 α) :
    rootA N s c ridge (padSq s N a) = ((rootA s s c ridge a).1, embedTry N (rootA s s c ridge a).2) ∧
      IsTab s (rootA s s c ridge a).2.h := by
  have h := outer_embed c hp hs (isTab_tabM s (maskF s (rdM a))) ridge c.tries 0 ⟨tabM s (eyeS s), 0, 0, 0⟩
  unfold rootA
  rw [maskA_padSq s N a]
  have h0 : (⟨tabM N (eyeS s), 0, 0, 0⟩ : Try α) = embedTry N ⟨tabM s (eyeS s), 0, 0, 0⟩ := by
    simp only [embedTry]; rw [embed_tabM (supp_eyeS s)]
  rw [h0]
  exact ⟨h.1, h.2 ⟨_, rfl⟩⟩

theorem paddedRoot_eq {s N : Nat} (c : Cfg α) (hp : 0 < c.p) (hs : s ≤ N) (ridge : α) (a : A2 α) :
    paddedRoot N s c ridge a = rootA s s c ridge a := by
  obtain ⟨h, hf⟩ := rootA_padSq c hp hs ridge a
  unfold paddedRoot
  dsimp only
  rw [h, embedTry_h, cutA_embed hf hs]
  -- η for `Try` and the pair
  rfl

end newton

section batching

theorem regroup_append {β : Type} (ks : List Nat) : ∀ (l e : List β), ks.sum ≤ l.length →
    regroup ks (l ++ e) = regroup ks l := by
  induction ks with
  | nil => intro _ _ _; rfl
  | cons k ks ih =>
    intro l e h
    rw [List.sum_cons] at h
    simp only [regroup]
    rw [List.take_append_of_le_length (by omega), List.drop_append_of_le_length (by omega),
      ih (l.drop k) e (by rw [List.length_drop]; omega)]

theorem regroup_map_flatten {β γ : Type} (f : β → γ) : ∀ ls : List (List β),
    regroup (ls.map List.length) (ls.flatten.map f) = ls.map (·.map f)
  | [] => rfl
  | l :: ls => by
    simp only [List.map_cons, List.flatten_cons, List.map_append, regroup]
    rw [List.take_left' (by simp), List.drop_left' (by simp), regroup_map_flatten f ls]

theorem size_le_maxSizeOf (leaves : List (List (Stat α))) (st : Stat α) (h : st ∈ leaves.flatten) :
    st.size ≤ maxSizeOf leaves :=
  rel_foldl_of_mem (· ≤ ·) Nat.le_refl Nat.le_trans Nat.max id (fun a b => Nat.le_max_left a b)
    (fun a b => Nat.le_max_right a b) _ 0 _ (List.mem_map_of_mem h)

theorem treeRootsG_eq_map {ρ : Type} {root : Nat → Nat → A2 α → ρ} {root' : Nat → A2 α → ρ}
    (hinv : ∀ N s a, s ≤ N → root N s a = root' s a) (leaves : List (List (Stat α))) :
    treeRootsG root leaves = leaves.map (·.map fun st => root' st.size st.dat) := by
  unfold treeRootsG
  dsimp only
  rw [← regroup_map_flatten]
  congr 1
  exact List.map_congr_left fun st hst => hinv _ _ _ (size_le_maxSizeOf leaves st hst)

theorem treeRootsG_leaf {ρ : Type} {root : Nat → Nat → A2 α → ρ} {root' : Nat → A2 α → ρ}
    (hinv : ∀ N s a, s ≤ N → root N s a = root' s a) (pre post : List (List (Stat α))) (leaf : List (Stat α)) :
    (treeRootsG root (pre ++ leaf :: post))[pre.length]? = some (leaf.map fun st => root' st.size st.dat) := by
  rw [treeRootsG_eq_map hinv]
  simp

theorem treeRootsG_leaf_indep {ρ : Type} {root : Nat → Nat → A2 α → ρ} {root' : Nat → A2 α → ρ}
    (hinv : ∀ N s a, s ≤ N → root N s a = root' s a) (pre post pre' post' : List (List (Stat α)))
    (leaf : List (Stat α)) :
    (treeRootsG root (pre ++ leaf :: post))[pre.length]? = (treeRootsG root (pre' ++ leaf :: post'))[pre'.length]? :=
  (treeRootsG_leaf hinv pre post leaf).trans (treeRootsG_leaf hinv pre' post' leaf).symm

theorem leafUpdateG_eq {γ σ ρ : Type} {root : Nat → Nat → A2 α → ρ} {root' : Nat → A2 α → ρ}
    (hinv : ∀ N s a, s ≤ N → root N s a = root' s a)
    (acc : σ → γ → σ) (init : σ) (toStats : σ → List (Stat α)) (apply : List ρ → γ → γ) (N : Nat)
    (blocksHist : List (List γ)) (cur : List γ)
    (hN : ∀ h ∈ blocksHist, ∀ st ∈ toStats (blockStats acc init h), st.size ≤ N) :
    leafUpdateG root acc init toStats apply N blocksHist cur
      = List.zipWith (fun h g => apply ((toStats (blockStats acc init h)).map fun st => root' st.size st.dat) g)
          blocksHist cur := by
  unfold leafUpdateG
  dsimp only
  have hroots : ∀ st ∈ (blocksHist.map fun h => toStats (blockStats acc init h)).flatten,
      root N st.size st.dat = root' st.size st.dat := by
    intro st hst
    obtain ⟨l, hl, hst'⟩ := List.mem_flatten.mp hst
    obtain ⟨h, hh, rfl⟩ := List.mem_map.mp hl
    exact hinv _ _ _ (hN h hh st hst')
  rw [List.map_congr_left hroots, regroup_map_flatten, List.map_map, List.zipWith_map_left]
  rfl

end batching

section tearfree
variable [Mul α] [LT α] [DecidableLT α] [Zero α]

theorem batchedMask_eq_map (eps : α) (ws : List (List α)) : batchedMask eps ws = ws.map (localMask eps) := by
  unfold batchedMask localMask
  rw [List.zipWith_map_right, List.zipWith_self]

theorem tfBatched_eq_map {σ V ρ : Type} (eig : σ → List α × V) (mk : List α → V → ρ) (pw : α → α) (eps : α)
    (stats : List σ) : tfBatched eig mk pw eps stats = stats.map (tfOne eig mk pw eps) := by
  unfold tfBatched
  dsimp only
  rw [batchedMask_eq_map, List.map_map, List.map_map, List.zipWith_map_left, List.zipWith_map_right, List.zipWith_self]
  rfl

end tearfree

section SlotPlan

theorem length_blockSlots (pt : PType) (n : Nat) (blk : List (Nat × Nat)) :
    (blockSlots pt n blk).length = (precAxes pt blk.length).length := by
  simp [blockSlots]

theorem length_slotsFrom (pt : PType) (r : Nat) : ∀ (n : Nat) (blocks : List (List (Nat × Nat))),
    (∀ blk ∈ blocks, blk.length = r) → (slotsFrom pt n blocks).length = blocks.length * (precAxes pt r).length
  | _, [], _ => by simp [slotsFrom]
  | n, blk :: rest, h => by
    simp only [slotsFrom, List.length_append, List.length_cons, length_blockSlots]
    rw [length_slotsFrom pt r (n + 1) rest (fun b hb => h b (List.mem_cons_of_mem _ hb)), h blk List.mem_cons_self]
    ring

theorem length_of_mem_cart {β : Type} : ∀ (ls : List (List β)) (x : List β), x ∈ cart ls → x.length = ls.length
  | [], x, h => by simp [cart] at h; simp [h]
  | l :: ls, x, h => by
    simp only [cart, List.mem_flatMap, List.mem_map] at h
    obtain ⟨a, _, y, hy, rfl⟩ := h
    simp [length_of_mem_cart ls y hy]

theorem length_of_mem_dsBlocks (shape : List Nat) (b : Nat) (blk : List (Nat × Nat)) (h : blk ∈ dsBlocks shape b) :
    blk.length = shape.length := by
  have := length_of_mem_cart _ _ h
  simpa using this

theorem slotsFrom_getElem (pt : PType) (r : Nat) (n : Nat) (blocks : List (List (Nat × Nat)))
    (h : ∀ blk ∈ blocks, blk.length = r) (i k : Nat) (hi : i < blocks.length) (hk : k < (precAxes pt r).length) :
    (slotsFrom pt n blocks)[i * (precAxes pt r).length + k]? =
      some ⟨n + i, (precAxes pt r)[k], blocks[i], (blocks[i].getD ((precAxes pt r)[k]) (0, 0)).2⟩ := by
  induction blocks generalizing n i with
  | nil => exact absurd hi (by simp)
  | cons blk rest ih =>
    have hb : blk.length = r := h blk List.mem_cons_self
    have hlen : (blockSlots pt n blk).length = (precAxes pt r).length := by rw [length_blockSlots, hb]
    cases i with
    | zero =>
      simp only [slotsFrom, Nat.zero_mul, Nat.zero_add, Nat.add_zero, List.getElem_cons_zero]
      rw [List.getElem?_append_left (by rw [hlen]; exact hk)]
      simp [blockSlots, hb, hk]
    | succ i =>
      -- skip the `K` slots of the first block: `(i + 1) K + k − K = i K + k`, then block `i` of the rest
      simp only [slotsFrom, List.getElem_cons_succ]
      rw [List.getElem?_append_right (by rw [hlen, Nat.succ_mul]; omega)]
      have : (i + 1) * (precAxes pt r).length + k - (blockSlots pt n blk).length = i * (precAxes pt r).length + k := by
        rw [hlen, Nat.succ_mul]; omega
      rw [this, ih (n + 1) (fun b hb' => h b (List.mem_cons_of_mem _ hb')) i (by simpa using hi)]
      congr 2; omega

theorem treeSlots_append (pt : PType) (b : Nat) (pre post : List (List Nat)) (sh : List Nat) :
    treeSlots pt b (pre ++ sh :: post) = treeSlots pt b pre ++ dsSlotsP pt sh b ++ treeSlots pt b post := by
  simp [treeSlots, List.flatMap_append, List.flatMap_cons]

theorem indexStarts_getElem : ∀ (pre : List Nat) (c : Nat) (post : List Nat) (o : Nat),
    (indexStarts (pre ++ c :: post) o)[pre.length]? = some (o + pre.sum)
  | [], c, post, o => by simp [indexStarts]
  | x :: pre, c, post, o => by
    simp only [List.cons_append, indexStarts, List.length_cons, List.getElem?_cons_succ, List.sum_cons]
    rw [indexStarts_getElem pre c post (o + x), Nat.add_assoc]

end SlotPlan

/-- the `n × n` window of a `Nat`-indexed matrix as a Mathlib matrix -/
def toMat (n : Nat) (A : F α) : Matrix (Fin n) (Fin n) α := fun i j => A i.val j.val

theorem toMat_apply (n : Nat) (A : F α) (i j : Fin n) : toMat n A i j = A i.val j.val := rfl

section Eigh
open Matrix
variable [Field α]

/-- hypothesis on the eigen-solver (`eigh` spec with zero padding): for a zero-padded matrix `blockdiag(R, 0)` the kept
eigenpairs (the last `s` columns / values, i.e. those not zeroed by `e *= flip(ix)`) are those of `R`, zero-extended:
`blockdiag(R, 0)` has the decomposition `blockdiag(U, I)`.  Nothing is assumed about the `N - s` dropped columns. -/
def KernelPadOK (kernel : Kernel α) : Prop :=
  ∀ (s N : Nat) (f : F α), Supp s f → s ≤ N → ∀ k, N - s ≤ k →
    (∀ i, (kernel N (tabM N f)).1 i k = padU s N (kernel s (tabM s f)).1 i k) ∧
    (kernel N (tabM N f)).2 k = padE s N (kernel s (tabM s f)).2 k

/-- the `eigh` specification for the call `matrix_inverse_pth_root_eigh` makes on an `n × n` matrix `B` whose live block is
`[0, s)²`: orthonormal eigenvectors, `U diag(e) Uᵀ = B`, and the `n - s` eigenvalues the code zeroes (`e *= flip(ix)`, the
first ones) are the zero eigenvalues of the padding.  (LAPACK returns ascending eigenvalues; `B = blockdiag(R, 0)` with
`R` = PSD statistic + ridge `> 0` positive definite has exactly `n - s` zero eigenvalues and `s` positive ones, so the
first `n - s` are the zeros.) -/
structure DsEighSpec (n s : Nat) (B U : F α) (e : Nat → α) : Prop where
  ortho : (toMat n U)ᵀ * toMat n U = 1
  recon : toMat n U * diagonal (fun k : Fin n => e k.val) * (toMat n U)ᵀ = toMat n B
  dropped_zero : ∀ k, k < n - s → e k = 0

/-- the matrix handed to `eigh`: statistic masked to the live block plus ridge on the live block -/
def regA (n s : Nat) (ridge : α) (a : A2 α) : A2 α := tabM n fun i j => maskF s (rdM a) i j + ridge * eyeS s i j

/-- the kernel's answer for the call with input `a`, size `n`, `padding_start = s` meets the `eigh` specification -/
def KernelMeetsSpec (kernel : Kernel α) (n s : Nat) (ridge : α) (a : A2 α) : Prop :=
  DsEighSpec n s (rdM (regA n s ridge a)) (kernel n (regA n s ridge a)).1 (kernel n (regA n s ridge a)).2

/-- the function `regA` tabulates -/
def regF (s : Nat) (ridge : α) (a : A2 α) : F α := fun i j => maskF s (rdM a) i j + ridge * eyeS s i j

theorem regF_apply (s : Nat) (ridge : α) (a : A2 α) (i j : Nat) :
    regF s ridge a i j = maskF s (rdM a) i j + ridge * eyeS s i j := rfl

theorem regA_eq (n s : Nat) (ridge : α) (a : A2 α) : regA n s ridge a = tabM n (regF s ridge a) := rfl

theorem supp_regF (s : Nat) (ridge : α) (a : A2 α) : Supp s (regF s ridge a) := by
  intro i j h
  rw [regF_apply, supp_eyeS s i j h, maskF_apply, if_neg (by omega), mul_zero, add_zero]

theorem regF_padSq {s N : Nat} (hs : s ≤ N) (ridge : α) (a : A2 α) : regF s ridge (padSq s N a) = regF s ridge a := by
  unfold regF; rw [maskF_padSq hs]

theorem rdM_regA {s n : Nat} (hs : s ≤ n) (ridge : α) (a : A2 α) : rdM (regA n s ridge a) = regF s ridge a :=
  rdM_tabM_of_supp ((supp_regF s ridge a).mono hs)

theorem eighRootA_eq (kernel : Kernel α) (invE : α → α) (n s : Nat) (ridge : α) (a : A2 α) :
    eighRootA kernel invE n s ridge a =
      tabM n (eighValF n s invE (kernel n (regA n s ridge a)).1 (kernel n (regA n s ridge a)).2) := rfl

theorem paddedEighRoot_eq_of_embed {s N : Nat} (hs : s ≤ N) (kernel : Kernel α) (invE : α → α) (ridge : α) (a : A2 α)
    (h : eighRootA kernel invE N s ridge (padSq s N a) = embed N (eighRootA kernel invE s s ridge a)) :
    paddedEighRoot kernel invE N s ridge a = eighRootA kernel invE s s ridge a := by
  rw [paddedEighRoot, h, eighRootA_eq]
  exact cutA_embed (isTab_tabM _ _) hs

theorem padU_dropped {s K : Nat} (U : F α) (i : Nat) {k : Nat} (hk : k < K) :
    padU s (K + s) U i k = if i = s + k then 1 else 0 := by
  unfold padU; rw [Nat.add_sub_cancel, if_pos hk]

theorem padU_kept {s K : Nat} (U : F α) (i l : Nat) :
    padU s (K + s) U i (K + l) = if i < s then U i l else 0 := by
  unfold padU; rw [Nat.add_sub_cancel, if_neg (by omega), Nat.add_sub_cancel_left]

theorem padE_kept {s K : Nat} (e : Nat → α) (l : Nat) : padE s (K + s) e (K + l) = e l := by
  unfold padE; rw [Nat.add_sub_cancel, if_neg (by omega), Nat.add_sub_cancel_left]

/-- `blockdiag(U, I)` (columns permuted: padding unit vectors first) sandwiching a diagonal `g`: the padding coordinates
see their own entry of `g`, the live block sees `U diag(g ∘ (K + ·)) Uᵀ`, nothing is mixed -/
theorem padU_sandwich {s K : Nat} (U : F α) (g : Nat → α) (i j : Nat) :
    sumTo (K + s) (fun k => padU s (K + s) U i k * g k * padU s (K + s) U j k) =
      (if s ≤ i ∧ i < s + K ∧ i = j then g (i - s) else 0) +
      (if i < s ∧ j < s then sumTo s (fun l => U i l * g (K + l) * U j l) else 0) := by
  -- the sum splits at `K`: of the first `K` columns (the unit vectors `e_(s+k)`) only `k = i - s` can contribute, and
  -- only for `i = j`; the last `s` columns are those of `U`, zero below row `s`
  rw [sumTo_add]
  congr 1
  · rw [sumTo_single K (i - s)]
    · by_cases h : s ≤ i ∧ i < s + K ∧ i = j
      · obtain ⟨h1, h2, rfl⟩ := h
        have hk : i - s < K := by omega
        rw [if_pos hk, if_pos ⟨h1, h2, rfl⟩, padU_dropped U i hk, if_pos (by omega), one_mul, mul_one]
      · rw [if_neg h]
        split
        · rename_i hk
          rw [padU_dropped U i hk, padU_dropped U j hk]
          by_cases hi : i = s + (i - s)
          · rw [if_neg (by omega : ¬ j = s + (i - s)), mul_zero]
          · rw [if_neg hi, zero_mul, zero_mul]
        · rfl
    · intro k hk hne
      rw [padU_dropped U i hk, if_neg (by omega), zero_mul, zero_mul]
  · by_cases h : i < s ∧ j < s
    · rw [if_pos h]
      exact sumTo_congr s fun l _ => by rw [padU_kept, padU_kept, if_pos h.1, if_pos h.2]
    · rw [if_neg h]
      apply sumTo_zero_fun
      intro l _
      rw [padU_kept, padU_kept]
      by_cases hi : i < s
      · rw [if_neg fun hj => h ⟨hi, hj⟩, mul_zero]
      · rw [if_neg hi, zero_mul, zero_mul]

theorem padU_sandwich_kept {s K : Nat} (U : F α) (g : Nat → α) (hg : ∀ k, k < K → g k = 0) (i j : Nat) :
    sumTo (K + s) (fun k => padU s (K + s) U i k * g k * padU s (K + s) U j k) =
      if i < s ∧ j < s then sumTo s (fun l => U i l * g (K + l) * U j l) else 0 := by
  rw [padU_sandwich, ite_eq_right_iff.mpr fun h => hg _ (by omega), zero_add]

theorem eighValF_congr_kept (N s : Nat) (invE : α → α) {U U' : F α} {e e' : Nat → α}
    (hU : ∀ i k, N - s ≤ k → U i k = U' i k) (he : ∀ k, N - s ≤ k → e k = e' k) :
    eighValF N s invE U e = eighValF N s invE U' e' := by
  funext i j
  unfold eighValF
  apply sumTo_congr
  intro k _
  by_cases hk : k < N - s
  · simp only [if_pos hk]; ring
  · rw [hU i k (by omega), hU j k (by omega), he k (by omega)]

theorem eighValF_pad {s N : Nat} (hs : s ≤ N) (invE : α → α) (U : F α) (e : Nat → α) :
    eighValF N s invE (padU s N U) (padE s N e) = fun i j => if i < s ∧ j < s then eighValF s s invE U e i j else 0 := by
  obtain ⟨K, rfl⟩ := Nat.exists_eq_add_of_le' hs
  funext i j
  unfold eighValF
  rw [padU_sandwich_kept U (fun k => if k < K + s - s then 0 else invE (padE s (K + s) e k))
    (fun k hk => if_pos (by omega))]
  have hK : ∀ l, ¬ K + l < K := fun l => by omega
  simp only [Nat.add_sub_cancel, Nat.sub_self, Nat.not_lt_zero, hK, if_false, padE_kept]

theorem eighRootA_padSq {s N : Nat} (kernel : Kernel α) (hk : KernelPadOK kernel) (invE : α → α) (hs : s ≤ N)
    (ridge : α) (a : A2 α) :
    eighRootA kernel invE N s ridge (padSq s N a) = embed N (eighRootA kernel invE s s ridge a) := by
  have hk' := fun k h => hk s N _ (supp_regF s ridge a) hs k h
  rw [eighRootA_eq, eighRootA_eq, regA_eq, regA_eq, regF_padSq hs,
    eighValF_congr_kept N s invE (fun i k h => (hk' k h).1 i) (fun k h => (hk' k h).2), eighValF_pad hs]
  exact tabM_window s N _

theorem toMat_conj_diagonal_apply (n : Nat) (U : F α) (g : Nat → α) (i j : Fin n) :
    (toMat n U * diagonal (fun k : Fin n => g k.val) * (toMat n U)ᵀ) i j =
      sumTo n fun k => U i.val k * g k * U j.val k := by
  rw [Spectral.conj_diagonal_apply, sumTo_eq_sum]
  rfl

theorem toMat_sandwich_iff (n : Nat) (U : F α) (g : Nat → α) (B : F α) :
    toMat n U * diagonal (fun k : Fin n => g k.val) * (toMat n U)ᵀ = toMat n B ↔
      ∀ i j, i < n → j < n → sumTo n (fun k => U i k * g k * U j k) = B i j := by
  rw [← Matrix.ext_iff]
  constructor
  · intro h i j hi hj
    rw [← toMat_conj_diagonal_apply n U g ⟨i, hi⟩ ⟨j, hj⟩, h, toMat_apply]
  · intro h i j
    rw [toMat_conj_diagonal_apply, h _ _ i.isLt j.isLt, toMat_apply]

/-- orthogonality of `toMat n U` read off the function-level sandwich at `g = 1`; `(fun _ => 1) k` is left unreduced so
that `padU_sandwich` and `diagKernel_sandwich`, stated for a general `g`, rewrite the right side as it stands -/
theorem toMat_orthogonal_iff (n : Nat) (U : F α) :
    (toMat n U)ᵀ * toMat n U = 1 ↔
      ∀ i j, i < n → j < n → sumTo n (fun k => U i k * (fun _ => 1) k * U j k) = if i = j then 1 else 0 := by
  have h1 : toMat n (fun i j => if i = j then (1 : α) else 0) = 1 := by
    ext i j
    rw [toMat_apply, Matrix.one_apply]
    exact if_congr Fin.ext_iff.symm rfl rfl
  have hd : toMat n U * (toMat n U)ᵀ = toMat n U * diagonal (fun _ : Fin n => (1 : α)) * (toMat n U)ᵀ := by
    rw [Matrix.diagonal_one, Matrix.mul_one]
  rw [mul_eq_one_comm, hd, ← h1]
  exact toMat_sandwich_iff n U (fun _ => 1) _

theorem eighValF_eq_matrix {n s : Nat} (invE : α → α) (h0 : invE 0 = 0) (U : F α) (e : Nat → α)
    (hz : ∀ k, k < n - s → e k = 0) (i j : Fin n) :
    eighValF n s invE U e i.val j.val
      = (toMat n U * diagonal (fun k : Fin n => invE (e k.val)) * (toMat n U)ᵀ) i j := by
  rw [toMat_conj_diagonal_apply n U fun k => invE (e k)]
  refine sumTo_congr n fun k _ => ?_
  by_cases hk : k < n - s
  · rw [if_pos hk, hz k hk, h0]
  · rw [if_neg hk]

theorem eighValF_unique {n s : Nat} (invE : α → α) (h0 : invE 0 = 0) {B U U' : F α} {e e' : Nat → α}
    (h : DsEighSpec n s B U e) (h' : DsEighSpec n s B U' e') (i j : Nat) (hi : i < n) (hj : j < n) :
    eighValF n s invE U e i j = eighValF n s invE U' e' i j := by
  rw [eighValF_eq_matrix invE h0 U e h.dropped_zero ⟨i, hi⟩ ⟨j, hj⟩,
    eighValF_eq_matrix invE h0 U' e' h'.dropped_zero ⟨i, hi⟩ ⟨j, hj⟩,
    Spectral.spectral_fn_unique invE (toMat n B) (toMat n U) (toMat n U') (fun k => e k.val) (fun k => e' k.val)
      h.ortho h.recon h'.ortho h'.recon]

/-- the zero-extended decomposition `blockdiag(U, I)`, `(0, e)` meets the specification of the padded matrix -/
theorem DsEighSpec.pad {s N : Nat} (hs : s ≤ N) {R U : F α} {e : Nat → α} (hR : Supp s R) (h : DsEighSpec s s R U e) :
    DsEighSpec N s R (padU s N U) (padE s N e) := by
  obtain ⟨K, rfl⟩ := Nat.exists_eq_add_of_le' hs
  have hUU := (toMat_orthogonal_iff s U).mp h.ortho
  have hUe := (toMat_sandwich_iff s U e R).mp h.recon
  refine ⟨(toMat_orthogonal_iff _ _).mpr fun i j hi hj => ?_, (toMat_sandwich_iff _ _ _ _).mpr fun i j hi hj => ?_,
    fun k hk => if_pos hk⟩
  · rw [padU_sandwich]
    by_cases hij : i < s ∧ j < s
    · rw [if_neg (by omega), zero_add, if_pos hij, hUU i j hij.1 hij.2]
    · rw [if_neg hij, add_zero]
      exact if_congr (by omega) rfl rfl
  · rw [padU_sandwich_kept U (padE s (K + s) e) (fun k hk => (if_pos (by omega) : padE s (K + s) e k = 0))]
    by_cases hij : i < s ∧ j < s
    · simp only [padE_kept]
      rw [if_pos hij, hUe i j hij.1 hij.2]
    · rw [if_neg hij, hR _ _ (by omega)]

theorem eighRootA_padSq_of_spec {s N : Nat} (kernel : Kernel α) (invE : α → α) (h0 : invE 0 = 0) (hs : s ≤ N)
    (ridge : α) (a : A2 α) (hN : KernelMeetsSpec kernel N s ridge (padSq s N a)) (hS : KernelMeetsSpec kernel s s ridge a) :
    eighRootA kernel invE N s ridge (padSq s N a) = embed N (eighRootA kernel invE s s ridge a) := by
  unfold KernelMeetsSpec at hN hS
  rw [rdM_regA hs, regF_padSq hs] at hN
  rw [rdM_regA (le_refl s)] at hS
  have hpad := hS.pad hs (supp_regF s ridge a)
  rw [eighRootA_eq, eighRootA_eq, ← tabM_window s N, ← eighValF_pad hs]
  exact tabM_congr N fun i j hi hj => eighValF_unique invE h0 hN hpad i j hi hj

end Eigh

/-- an eigen-solver meeting `KernelPadOK`: the exact solver for diagonal matrices `diag(g 0 ≥ g 1 ≥ …)` (ascending
eigenvalues, anti-diagonal permutation as eigenvectors) -/
def diagKernel [Zero α] [One α] (g : Nat → α) : Kernel α :=
  fun n _ => (fun i k => if i + k + 1 = n then 1 else 0, fun k => g (n - 1 - k))

theorem diagKernel_fst [Zero α] [One α] (g : Nat → α) (n : Nat) (A : A2 α) (i k : Nat) :
    (diagKernel g n A).1 i k = if i + k + 1 = n then 1 else 0 := rfl

theorem diagKernel_snd [Zero α] [One α] (g : Nat → α) (n : Nat) (A : A2 α) (k : Nat) :
    (diagKernel g n A).2 k = g (n - 1 - k) := rfl

/-- the anti-diagonal permutation sandwiching a diagonal `c` reverses it -/
theorem diagKernel_sandwich [Field α] (g : Nat → α) (n : Nat) (A : A2 α)
    (c : Nat → α) {a b : Nat} (ha : a < n) (hb : b < n) :
    sumTo n (fun k => (diagKernel g n A).1 a k * c k * (diagKernel g n A).1 b k) = if a = b then c (n - 1 - a) else 0 := by
  rw [sumTo_single n (n - 1 - a)]
  · rw [if_pos (by omega), diagKernel_fst, diagKernel_fst, if_pos (by omega), one_mul]
    by_cases hab : a = b
    · rw [if_pos hab, if_pos (by omega), mul_one]
    · rw [if_neg hab, if_neg (by omega), mul_zero]
  · intro k _ hne
    rw [diagKernel_fst, if_neg (by omega), zero_mul, zero_mul]

theorem diagKernel_padOK [Field α] [LinearOrder α] [IsStrictOrderedRing α] (g : Nat → α) : KernelPadOK (diagKernel g) := by
  intro s N f _ hs k hk
  obtain ⟨K, rfl⟩ := Nat.exists_eq_add_of_le' hs
  obtain ⟨l, rfl⟩ := Nat.exists_eq_add_of_le (show K ≤ k by omega)
  refine ⟨fun i => ?_, ?_⟩
  · rw [padU_kept, diagKernel_fst, diagKernel_fst]
    by_cases hi : i < s
    · rw [if_pos hi]
      exact if_congr (by omega) rfl rfl
    · rw [if_neg hi, if_neg (by omega)]
  · rw [padE_kept, diagKernel_snd, diagKernel_snd, show K + s - 1 - (K + l) = s - 1 - l by omega]

section DiagKernelSpec
variable [Field α] [LinearOrder α] [IsStrictOrderedRing α]

set_option linter.unusedSectionVars false in
/-- non-vacuity: for a zero statistic the regularised matrix is `diag(ridge,…,ridge,0,…,0)` and the exact diagonal solver
`diagKernel` meets the specification (padded or not) -/
theorem diagKernel_meetsSpec (n s : Nat) (hs : s ≤ n) (ridge : α) :
    KernelMeetsSpec (diagKernel fun i => if i < s then ridge else 0) n s ridge (#[] : A2 α) := by
  unfold KernelMeetsSpec
  rw [rdM_regA hs]
  refine ⟨(toMat_orthogonal_iff _ _).mpr fun a b ha hb => diagKernel_sandwich _ n _ _ ha hb,
    (toMat_sandwich_iff _ _ _ _).mpr fun a b ha hb => ?_, fun k hk => by rw [diagKernel_snd]; exact if_neg (by omega)⟩
  have hz : maskF s (rdM (#[] : A2 α)) a b = 0 := by
    unfold maskF rdM; simp
  rw [diagKernel_sandwich _ n _ _ ha hb, diagKernel_snd, show n - 1 - (n - 1 - a) = a by omega, regF_apply, hz, zero_add, eyeS]
  by_cases hab : a = b
  · by_cases h : a < s
    · rw [if_pos hab, if_pos h, if_pos ⟨hab, h⟩, mul_one]
    · rw [if_pos hab, if_neg h, if_neg fun hh => h hh.2, mul_zero]
  · rw [if_neg hab, if_neg fun hh => hab hh.1, mul_zero]

end DiagKernelSpec

end PrecondVerif.BlockDiag
