/-
Lemmas for C02 (the code-shaped model `Low` of the Distributed Shampoo update equals the documented math `Spec`), in this order:
* `Rot`: the loop invariant `RotRel` of `_precondition_block` makes `lowBlock = specBlock` an induction over the axes;
* `Slots`: the slot lists of `_preconds_for_grad` and of the documentation are both `Shapes.slotsFrom`; `pdims_length`;
* `Stats`: length and entries of the flat statistics list (`lowStatsGo_getElem?`);
* `Closed`: `refreshCount`, `gramSum`, in which `C02.statistics_closed_form` states the statistics over a history;
* `Pipeline`, `Transform`: lengths and coordinates of the stages of `_transform_grad`, `Low` transform = `Spec` transform;
* `Coord`: the documented per-coordinate update `docOut`, `docCoord`;
* `Cong`, `PrecondGrad`, `Update`: `preconditioned_grad` respects block-wise entry equality (`precondGradWith_congr`), hence
  `lowPrecondGrad = specPrecondGrad` and `lowUpdate = specUpdate`;
* `Lsum`: `lsum` as a `Finset` sum, and as C10's `LowRank.sumFin` (the one reason `Model/LowRank.lean` is imported: C02's
  `denoted_matrix_is_C10_denote`);
* `Packed`: the compressed branch is the dense one through `denoteStored`;
* `IdPrecond`: with identity matrices in every slot `preconditioned_grad` returns the gradient (C06b).
The plain list facts used here (`getElem?_zipWith_of_some`, …) open `section Lists` of `Lemmas/Graft.lean`.
-/
import PrecondVerif.Model.DShampoo
import PrecondVerif.Lemmas.Graft
import PrecondVerif.Lemmas.PartitionIdx
import PrecondVerif.Model.LowRank
import Mathlib.Algebra.BigOperators.Fin

namespace PrecondVerif.DShampoo
open PrecondVerif.Shapes PrecondVerif.Graft

section Rot
variable {α : Type}

/-- loop invariant of `_precondition_block`: after `m` iterations the tensor is the Spec tensor with its axes
rotated left `m` times -/
structure RotRel (shape : List Nat) (m : Nat) (L S : Tensor α) : Prop where
  shapeL : L.shape = shape.drop m ++ shape.take m
  shapeS : S.shape = shape
  get : ∀ pre post : List Nat, pre.length = m → pre.length + post.length = shape.length →
    L.get (post ++ pre) = S.get (pre ++ post)

theorem rotRel_init (g : Tensor α) : RotRel g.shape 0 g g :=
  ⟨by simp, rfl, by
    intro pre post hp _
    have : pre = [] := List.length_eq_zero_iff.mp hp
    subst this; simp⟩

theorem rotate_get (g : Tensor α) (idx : List Nat) :
    (rotate g).get idx = g.get (idx.getLastD 0 :: idx.dropLast) := rfl

variable [Add α] [Mul α] [OfNat α 0]

/-- the Spec counterpart of one loop iteration at axis `m` -/
def specStep (m : Nat) (S : Tensor α) (s : Option (Mx α)) : Tensor α :=
  match s with
  | none => S
  | some P => modeProd S m P

theorem specBlockFrom_cons (m : Nat) (S : Tensor α) (s : Option (Mx α)) (ss : List (Option (Mx α))) :
    specBlockFrom m S (s :: ss) = specBlockFrom (m + 1) (specStep m S s) ss := by
  cases s <;> rfl

theorem lowBlockStep_shape (L : Tensor α) (s : Option (Mx α)) :
    (lowBlockStep L s).shape = L.shape.tail ++ [L.shape.headD 0] := by
  cases s <;> rfl

theorem specStep_shape (m : Nat) (S : Tensor α) (s : Option (Mx α)) : (specStep m S s).shape = S.shape := by
  cases s <;> rfl

theorem tensordot0_get (g : Tensor α) (P : Mx α) (idx : List Nat) :
    (tensordot0 g P).get idx =
      lsum ((List.range (g.shape.headD 0)).map fun j => g.get (j :: idx.dropLast) * P j (idx.getLastD 0)) := rfl

theorem modeProd_get (g : Tensor α) (a : Nat) (P : Mx α) (idx : List Nat) :
    (modeProd g a P).get idx =
      lsum ((List.range (g.shape.getD a 0)).map fun j => g.get (idx.set a j) * P j (idx.getD a 0)) := rfl

theorem rotRel_step (shape : List Nat) (m : Nat) (L S : Tensor α) (s : Option (Mx α))
    (h : RotRel shape m L S) (hm : m < shape.length) :
    RotRel shape (m + 1) (lowBlockStep L s) (specStep m S s) := by
  have hdrop : shape.drop m = shape[m] :: shape.drop (m + 1) := List.drop_eq_getElem_cons hm
  refine ⟨?_, ?_, ?_⟩
  · rw [lowBlockStep_shape, h.shapeL, hdrop, List.take_add_one, List.getElem?_eq_getElem hm]
    simp only [List.cons_append, List.tail_cons, List.headD_cons, Option.toList_some, List.append_assoc]
  · rw [specStep_shape, h.shapeS]
  · intro pre' post' hp hlen
    have hne : pre' ≠ [] := by intro h0; subst h0; simp at hp
    obtain ⟨pre, c, rfl⟩ : ∃ pre c, pre' = pre ++ [c] :=
      ⟨pre'.dropLast, pre'.getLast hne, (List.dropLast_append_getLast hne).symm⟩
    have hpre : pre.length = m := by simpa using hp
    have hlen' : pre.length + (post'.length + 1) = shape.length := by
      simp at hlen; omega
    -- reading the rotated tensor with `j` in front is reading the Spec tensor with `j` at axis `m`
    have hget : ∀ j, L.get (j :: (post' ++ pre)) = S.get (pre ++ j :: post') := fun j => by
      simpa using h.get pre (j :: post') hpre (by simpa using hlen')
    have e1 : post' ++ (pre ++ [c]) = (post' ++ pre) ++ [c] := by simp
    cases s with
    | none =>
      simp only [lowBlockStep, specStep]
      rw [rotate_get, e1, List.getLastD_concat, List.dropLast_concat, hget]
      simp
    | some P =>
      simp only [lowBlockStep, specStep]
      rw [tensordot0_get, modeProd_get]
      have hhead : L.shape.headD 0 = S.shape.getD m 0 := by
        rw [h.shapeL, h.shapeS, hdrop]; simp [List.getD_eq_getElem?_getD, List.getElem?_eq_getElem hm]
      have hgetD : (pre ++ [c] ++ post').getD m 0 = c := by
        simp [List.getD_eq_getElem?_getD, ← hpre]
      have hset : ∀ j, (pre ++ [c] ++ post').set m j = pre ++ j :: post' := by
        intro j; simp [← hpre]
      rw [e1, List.getLastD_concat, List.dropLast_concat, hhead, hgetD]
      congr 1
      apply List.map_congr_left
      intro j _
      rw [hset j, hget]

theorem rotRel_fold (shape : List Nat) : ∀ (slots : List (Option (Mx α))) (m : Nat) (L S : Tensor α),
    m + slots.length = shape.length → RotRel shape m L S →
    RotRel shape shape.length (slots.foldl lowBlockStep L) (specBlockFrom m S slots)
  | [], m, L, S, hm, h => by
    have : m = shape.length := by simpa using hm
    subst this; exact h
  | s :: ss, m, L, S, hm, h => by
    rw [List.foldl_cons, specBlockFrom_cons]
    exact rotRel_fold shape ss (m + 1) _ _ (by simp at hm; omega)
      (rotRel_step shape m L S s h (by simp at hm; omega))

theorem lowBlock_eq_specBlock (g : Tensor α) (slots : List (Option (Mx α)))
    (h : slots.length = g.shape.length) :
    (lowBlock g slots).shape = g.shape ∧ (specBlock g slots).shape = g.shape ∧
    ∀ idx : List Nat, idx.length = g.shape.length → (lowBlock g slots).get idx = (specBlock g slots).get idx := by
  have r := rotRel_fold g.shape slots 0 g g (by rw [Nat.zero_add, h]) (rotRel_init g)
  unfold lowBlock specBlock
  -- after all `length` rotations the axes are back in place: `drop n ++ take n` is the whole shape
  refine ⟨by rw [r.shapeL, List.drop_length, List.take_length, List.nil_append], r.shapeS, fun idx hi => ?_⟩
  have := r.get idx [] hi (by rw [List.length_nil, Nat.add_zero, hi])
  rwa [List.nil_append, List.append_nil] at this

end Rot

section Slots

theorem filter_id_replicate_false (n : Nat) : ((List.replicate n false).filter id).length = 0 := by
  simp

/-- the documented slot of every axis (`base` + number of preconditioned axes before it), listed along the axes,
is `slotsFrom`; `pre` are the flags of the axes already passed -/
theorem map_slot_eq_slotsFrom (base : Nat) : ∀ (l pre : List Bool),
    ((List.range' pre.length l.length).map fun a =>
      if (pre ++ l).getD a false then some (base + (((pre ++ l).take a).filter id).length) else none) =
    slotsFrom l (base + (pre.filter id).length)
  | [], _ => rfl
  | s :: l, pre => by
    have ih := map_slot_eq_slotsFrom base l (pre ++ [s])
    simp only [List.append_assoc, List.singleton_append, List.length_append, List.length_singleton] at ih
    rw [List.length_cons, List.range'_succ, List.map_cons, ih]
    have h0 : (pre ++ s :: l).getD pre.length false = s := by simp [List.getD_eq_getElem?_getD]
    have h1 : (pre ++ s :: l).take pre.length = pre := by simp
    rw [h0, h1]
    cases s <;> simp [slotsFrom, List.filter_append, Nat.add_assoc]

theorem specSlots_eq_slotsFrom (pt : PType) (rank b : Nat) :
    specSlots pt rank b = slotsFrom (shouldPreconditionDims pt rank) (b * numPreconditioned pt rank) := by
  have h := map_slot_eq_slotsFrom (b * numPreconditioned pt rank) (shouldPreconditionDims pt rank) []
  rw [shouldPreconditionDims_length] at h
  unfold specSlots
  rw [List.range_eq_range']
  exact h

theorem lowSlots_eq_specSlots (pt : PType) (rank b : Nat) : lowSlots pt rank b = specSlots pt rank b :=
  (precondsForGrad_eq_slotsFrom pt rank b).trans (specSlots_eq_slotsFrom pt rank b).symm

theorem specSlots_lt (pt : PType) (rank b ix : Nat) (h : some ix ∈ specSlots pt rank b) :
    ix < (b + 1) * numPreconditioned pt rank := by
  rw [specSlots_eq_slotsFrom] at h
  rw [Nat.succ_mul]
  exact lt_of_mem_slotsFrom h

/-- the `true` flags counted by position and by value -/
theorem length_filter_range_getD (l : List Bool) :
    ((List.range l.length).filter fun a => l.getD a false).length = (l.filter id).length := by
  conv => rhs; rw [← range_map_getD_self l false, List.filter_map, List.length_map]
  rfl

/-- the statistics loop and the slot arithmetic count the same number of preconditioned axes -/
theorem pdims_length (G : Geom) : G.pdims.length = G.k := by
  have h := length_filter_range_getD (shouldPreconditionDims G.ptype G.rank)
  rwa [shouldPreconditionDims_length] at h

end Slots

section Stats
variable {α : Type} [Add α] [Mul α] [OfNat α 0]

theorem lowStatsGo_length (w1 w2 : α) (stats : List (Mx α)) (pdims : List Nat) :
    ∀ (gs : List (Tensor α)) (i0 : Nat), (lowStatsGo w1 w2 stats pdims gs i0).length = gs.length * pdims.length
  | [], _ => by simp [lowStatsGo]
  | g :: gs, i0 => by
    simp only [lowStatsGo, List.length_append, List.length_map, List.length_zipIdx, List.length_cons,
      lowStatsGo_length w1 w2 stats pdims gs, Nat.succ_mul]
    omega

theorem lowStatsGo_getElem? (w1 w2 : α) (stats : List (Mx α)) (pdims : List Nat) (gs : List (Tensor α))
    (i0 b j : Nat) (hb : b < gs.length) (hj : j < pdims.length) :
    (lowStatsGo w1 w2 stats pdims gs i0)[b * pdims.length + j]? =
      some (statStep w1 w2 (stats.getD (i0 + b * pdims.length + j) Mx.zero) gs[b] pdims[j]) := by
  induction gs generalizing i0 b with
  | nil => exact absurd hb (Nat.not_lt_zero b)
  | cons g gs ih =>
    rw [lowStatsGo]
    cases b with
    | zero =>
      rw [Nat.zero_mul, Nat.zero_add, Nat.add_zero, List.getElem?_append_left (by simpa using hj),
        List.getElem?_map, List.getElem?_zipIdx, List.getElem?_eq_getElem hj]
      simp only [Option.map_some, Nat.zero_add, List.getElem_cons_zero]
    | succ b =>
      have e : (b + 1) * pdims.length + j = pdims.length + (b * pdims.length + j) := by
        rw [Nat.succ_mul]; omega
      rw [e, List.getElem?_append_right (by simp)]
      simp only [List.length_map, List.length_zipIdx, Nat.add_sub_cancel_left]
      rw [ih (i0 + pdims.length) b (Nat.lt_of_succ_lt_succ hb), List.getElem_cons_succ]
      congr 3
      omega

end Stats

section Closed
variable {α : Type} [CommRing α]

/-- number of statistics steps in a history -/
def refreshCount (hist : List (Bool × Tensor α)) : Nat := (hist.filter (·.1)).length

/-- `Σ_s w1^{#statistics steps after s} · (G_s ×_a G_s)[i, j]` over the statistics steps `s` of the history -/
def gramSum (w1 : α) (a i j : Nat) : List (Bool × Tensor α) → α
  | [] => 0
  | sg :: rest => (if sg.1 then w1 ^ refreshCount rest * gram sg.2 a i j else 0) + gramSum w1 a i j rest

omit [CommRing α] in
theorem refreshCount_cons (sg : Bool × Tensor α) (rest : List (Bool × Tensor α)) :
    refreshCount (sg :: rest) = (if sg.1 then 1 else 0) + refreshCount rest := by
  unfold refreshCount
  cases h : sg.1 <;> simp [h, Nat.add_comm]

end Closed

section Pipeline
variable {α : Type} [Add α] [Mul α]

theorem length_ite_axpy (b : Bool) (c : α) (v p : List α) (n : Nat) (hv : v.length = n) (hp : p.length = n) :
    (if b then axpy c v p else v).length = n := by
  cases b <;> simp [axpy, hv, hp]

theorem momStep_length (b w : α) (m u : List α) (n : Nat) (hm : m.length = n) (hu : u.length = n) :
    (momStep b w m u).length = n := by
  simp [momStep, hm, hu]

theorem momStep_getElem? (β w : α) (m u : List α) (i : Nat) (mi ui : α)
    (hm : m[i]? = some mi) (hu : u[i]? = some ui) :
    (momStep β w m u)[i]? = some (mi * β + w * ui) := by
  unfold momStep
  exact getElem?_zipWith_of_some _ hm hu

end Pipeline

section Transform
variable {α : Type} [Field α]

/-- both weight decays have this shape: coupled (`axpy`) and decoupled (`addDecoupledWd`) are `zipWith (· + f ·)`
under a flag -/
theorem getElem?_ite_zipWith (b : Bool) (f : α → α) (v p : List α) (i : Nat) (y x : α)
    (hv : v[i]? = some y) (hp : p[i]? = some x) :
    (if b then List.zipWith (fun a c => a + f c) v p else v)[i]? = some (y + if b then f x else 0) := by
  cases b
  · simpa using hv
  · exact getElem?_zipWith_of_some _ hv hp

theorem momW_wd (h : Hyper α) (w : α) : momW { h with wd := w } = momW h := rfl

variable [LinearOrder α]

theorem candidates_lengths (sqrt : α → α) (nc : Nat → α) (h : Hyper α) (skip : Bool) (g param : List α)
    (st : PState α) (precond : List α) (n : Nat)
    (hgr : (dsGraftStep sqrt nc h.g g st.diag).1.length = n) (hp : param.length = n) (hpc : precond.length = n)
    (hm : st.mom.length = n) (hdm : st.dmom.length = n) :
    let c := candidates sqrt nc h skip g param st precond
    c.sWd.length = n ∧ c.gWd.length = n ∧ c.mS.length = n ∧ c.mG.length = n := by
  intro c
  have hgraft : c.graft.length = n := (scale_length _ _).trans hgr
  have hsh : c.shampoo.length = n :=
    (dsShampooUpdate_length _ _ _ _).trans ((dsPrecondGrad_length skip _ _ (hpc.trans hgraft.symm)).trans hgraft)
  have hs : c.sWd.length = n := length_ite_axpy _ _ _ _ n hsh hp
  have hg : c.gWd.length = n := length_ite_axpy _ _ _ _ n hgraft hp
  exact ⟨hs, hg, momStep_length _ _ _ _ n hm hs, momStep_length _ _ _ _ n hdm hg⟩

theorem finishUpd_getElem? (h : Hyper α) (param momU wdU : List α) (i : Nat) (x mo u : α)
    (hx : param[i]? = some x) (hmo : momU[i]? = some mo) (hu : wdU[i]? = some u) :
    (finishUpd h param momU wdU)[i]? = some (-1 * momentumMultiplier h.g *
      ((if h.nesterov then momW h * u + h.beta1 * mo else mo) +
        if decoupledWdOn h then wdLr h * h.wd * x else 0)) := by
  have hn : (if h.nesterov then nesterovMix (momW h) h.beta1 wdU momU else momU)[i]? =
      some (if h.nesterov then momW h * u + h.beta1 * mo else mo) := by
    cases h.nesterov
    · exact hmo
    · unfold nesterovMix
      exact getElem?_zipWith_of_some _ hu hmo
  have hd := getElem?_ite_zipWith (decoupledWdOn h) (fun p => wdLr h * h.wd * p) _ param i _ x hn hx
  simp only [finishUpd, finalScale, addDecoupledWd, List.getElem?_map, hd, Option.map_some]

/-- with a decoupled learning rate nothing before the final scaling reads `lr` -/
theorem candidates_lr (sqrt : α → α) (nc : Nat → α) (h : Hyper α) (hd : h.g.decoupledLr = true) (lr' : α)
    (skip : Bool) (g param : List α) (st : PState α) (precond : List α) :
    candidates sqrt nc { h with g := { h.g with lr := lr' } } skip g param st precond =
      candidates sqrt nc h skip g param st precond := by
  simp only [candidates, precondMultiplier, hd, if_true]
  rfl

theorem finishUpd_lr (h : Hyper α) (hd : h.g.decoupledLr = true) (param momU wdU : List α) :
    finishUpd h param momU wdU =
      (finishUpd { h with g := { h.g with lr := 1 } } param momU wdU).map fun y => h.g.lr * y := by
  have hw : wdLr ({ h with g := { h.g with lr := 1 } } : Hyper α) = wdLr h := by simp only [wdLr, hd, if_true]
  unfold finishUpd
  rw [hw]
  simp only [finalScale, momentumMultiplier, hd, if_true, List.map_map]
  apply List.map_congr_left
  intro y _
  simp only [Function.comp]
  ring

variable [IsStrictOrderedRing α]

set_option linter.unusedSectionVars false in
theorem blend_eq_select (step start : Nat) (a b : List α) (h : a.length = b.length) :
    blend (runShampoo step start : α) a b = selectRun step start a b := by
  unfold runShampoo selectRun
  split
  · exact blend_one a b (le_of_eq h)
  · exact blend_zero a b (le_of_eq h.symm)

theorem lowTransform_eq_specTransform (sqrt : α → α) (nc : Nat → α) (h : Hyper α) (step : Nat) (skip : Bool)
    (g param : List α) (st : PState α) (precond : List α) (n : Nat)
    (hgr : (dsGraftStep sqrt nc h.g g st.diag).1.length = n) (hp : param.length = n) (hpc : precond.length = n)
    (hm : st.mom.length = n) (hdm : st.dmom.length = n) :
    lowTransform sqrt nc h step skip g param st precond = specTransform sqrt nc h step skip g param st precond := by
  obtain ⟨h1, h2, h3, h4⟩ := candidates_lengths sqrt nc h skip g param st precond n hgr hp hpc hm hdm
  unfold lowTransform specTransform
  simp only
  rw [blend_eq_select _ _ _ _ (h3.trans h4.symm), blend_eq_select _ _ _ _ (h1.trans h2.symm)]

end Transform

section Coord
variable {α : Type} [Field α] [LinearOrder α] [IsStrictOrderedRing α]

/-- The documented update of ONE coordinate, in the documented order: candidate (Shampoo from the start step on,
graft before) → coupled weight decay → momentum → Nesterov → decoupled weight decay → −lr. `s`, `gr` are the
coordinate of `shampoo_update` (after the rescale) and `grafting_update` (times lr when coupled), `x` the parameter,
`m`, `dm` the two stored momenta. -/
def docOut (h : Hyper α) (run : Bool) (s gr x m dm : α) : α :=
  let u := (if run then s else gr) + (if coupledWd h then h.wd * x else 0)
  let mo := (if run then m else dm) * h.beta1 + momW h * u
  let nest := if h.nesterov then momW h * u + h.beta1 * mo else mo
  nest + (if decoupledWdOn h then wdLr h * h.wd * x else 0)

def docCoord (h : Hyper α) (run : Bool) (s gr x m dm : α) : α :=
  -1 * momentumMultiplier h.g * docOut h run s gr x m dm

end Coord

section Cong
variable {α : Type} [OfNat α 0]

theorem Geom.blocks_eq (G : Geom) (g : List α) :
    G.blocks g = partition ((ofFlat G.shape g).reshape G.tshape) G.block := rfl

theorem blocks_shape_length (G : Geom) (g : List α) : ∀ v ∈ G.blocks g, v.shape.length = G.rank := by
  rw [Geom.blocks_eq]
  exact partition_shape_length _ _

theorem tshape_prod (G : Geom) (hd : ∀ d ∈ G.shape, 1 ≤ d) : prod G.tshape = prod G.shape := by
  unfold Geom.tshape
  split
  · exact mergeSmallDims_prod _ _ hd
  · rfl

/-- an index of the parameter exists only if no dimension is 0, and then merging keeps the number of entries -/
theorem ravel_lt_tshape (G : Geom) {idx : List Nat} (hin : inBounds G.shape idx) :
    ravel G.shape idx < prod G.tshape := by
  rw [tshape_prod G (inBounds_pos hin)]
  exact ravel_lt _ _ hin

omit [OfNat α 0] in
/-- flattening after the reshape back to the parameter shape reads in-bounds entries only -/
theorem flat_reshape_congr (G : Geom) (u v : Tensor α) (hs : u.shape = G.tshape) (h : u.Eqv v) :
    (u.reshape G.shape).flat = (v.reshape G.shape).flat := by
  refine flat_congr rfl fun idx hin => ?_
  simp only [Tensor.reshape]
  rw [← h.1]
  exact h.2 _ (unravel_inBounds _ _ (hs ▸ ravel_lt_tshape G hin))

variable [Inhabited α]

/-- **`preconditioned_grad` respects block-wise entry equality**: two block operations that keep the shape of every
block and agree on its in-bounds entries give the same result, and the assert of `merge_partitions` holds.
The blocks `f'` returns have the announced shapes, so they merge (`partition_mergePartitions`) into a tensor whose
partition they are; the blocks `f` returns agree with that partition, so they merge into the same tensor
(`mergePartitions_of_eqv`). Only `f'` needs the shape hypothesis: `f` inherits the shapes through `Eqv`. -/
theorem precondGradWith_congr (G : Geom) (f f' : Nat → Tensor α → Tensor α) (g : List α)
    (hshape : ∀ gb ∈ (G.blocks g).zipIdx, (f' gb.2 gb.1).shape = gb.1.shape)
    (h : ∀ gb ∈ (G.blocks g).zipIdx, (f gb.2 gb.1).Eqv (f' gb.2 gb.1)) :
    precondGradWith G f g = precondGradWith G f' g ∧ (precondGradWith G f' g).isSome = true := by
  have hshapes : ((G.blocks g).zipIdx.map fun gb => f' gb.2 gb.1).map (·.shape) =
      cartesian (splitAll G.tshape G.block) := by
    have hp : (G.blocks g).map (·.shape) = cartesian (splitAll G.tshape G.block) := by
      rw [Geom.blocks_eq]
      exact partition_shapes _ _
    have e : (G.blocks g).map (·.shape) = ((G.blocks g).zipIdx.map Prod.fst).map (·.shape) := by
      rw [List.zipIdx_map_fst]
    rw [← hp, e, List.map_map, List.map_map]
    exact List.map_congr_left hshape
  obtain ⟨u, hu, hus, hpart⟩ := partition_mergePartitions G.tshape G.block _ hshapes
  have hrel : List.Forall₂ Tensor.Eqv ((G.blocks g).zipIdx.map fun gb => f gb.2 gb.1)
      ((G.blocks g).zipIdx.map fun gb => f' gb.2 gb.1) := by
    rw [List.forall₂_map_left_iff, List.forall₂_map_right_iff, List.forall₂_same]
    exact h
  obtain ⟨u', hu', huE⟩ := mergePartitions_of_eqv u G.block _ (forall₂_eqv_trans hrel (forall₂_eqv_symm hpart))
  rw [hus] at hu'
  unfold precondGradWith Geom.assemble
  rw [hu, hu']
  exact ⟨congrArg some (flat_reshape_congr G u' u (huE.1.trans hus) huE), rfl⟩

end Cong

section PrecondGrad
variable {α : Type} [Add α] [Mul α] [OfNat α 0] [Inhabited α]

omit [Add α] [Mul α] [OfNat α 0] [Inhabited α] in
theorem slotMats_specSlots_length (P : List (Mx α)) (dflt : Mx α) (pt : PType) (rank b : Nat) :
    (slotMats P dflt (specSlots pt rank b)).length = rank := by
  rw [slotMats, specSlots, List.length_map, List.length_map, List.length_range]

theorem lowPrecondGrad_eq_specPrecondGrad (G : Geom) (P : List (Mx α)) (g : List α) :
    lowPrecondGrad G P g = specPrecondGrad G P g ∧ (specPrecondGrad G P g).isSome = true := by
  have hlen : ∀ gb ∈ (G.blocks g).zipIdx,
      (slotMats P Mx.zero (specSlots G.ptype G.rank gb.2)).length = gb.1.shape.length := fun gb hgb =>
    (slotMats_specSlots_length _ _ _ _ _).trans (blocks_shape_length G g gb.1 (List.fst_mem_of_mem_zipIdx hgb)).symm
  apply precondGradWith_congr
  · intro gb hgb
    exact (lowBlock_eq_specBlock gb.1 _ (hlen gb hgb)).2.1
  · intro gb hgb
    rw [lowSlots_eq_specSlots]
    obtain ⟨h1, h2, h3⟩ := lowBlock_eq_specBlock gb.1 _ (hlen gb hgb)
    exact ⟨h1.trans h2.symm, fun idx hi => h3 idx (by rw [inBounds_length hi, h1])⟩

theorem specPrecondGrad_length (G : Geom) (P : List (Mx α)) (g pg : List α)
    (h : specPrecondGrad G P g = some pg) : pg.length = prod G.shape := by
  unfold specPrecondGrad precondGradWith Geom.assemble at h
  rw [Option.map_eq_some_iff] at h
  obtain ⟨t, _, rfl⟩ := h
  simp [Tensor.flat, Tensor.reshape, allIdx_length]

end PrecondGrad

section Update
variable {α : Type} [Field α] [LinearOrder α] [IsStrictOrderedRing α] [Inhabited α]

theorem lowUpdate_eq_specUpdate (sqrt : α → α) (nc : Nat → α) (sharded : Bool) (G : Geom) (h : Hyper α)
    (step : Nat) (skip : Bool) (g param : List α) (st : PState α) (before after : List (Mx α))
    (hgr : (dsGraftStep sqrt nc h.g g st.diag).1.length = prod G.shape) (hg : g.length = prod G.shape)
    (hp : param.length = prod G.shape) (hm : st.mom.length = prod G.shape)
    (hdm : st.dmom.length = prod G.shape) :
    lowUpdate sqrt nc sharded G h step skip g param st before after =
      specUpdate sqrt nc sharded G h step skip g param st before after := by
  unfold lowUpdate specUpdate
  rw [(lowPrecondGrad_eq_specPrecondGrad G _ g).1]
  cases skip
  · simp only [Bool.false_eq_true, if_false]
    cases hpg : specPrecondGrad G (usedPreconds sharded before after) g with
    | none => rfl
    | some pg =>
      simp only [Option.map_some]
      rw [lowTransform_eq_specTransform sqrt nc h step false g param st pg (prod G.shape) hgr hp
        (specPrecondGrad_length G _ g pg hpg) hm hdm]
  · simp only [if_true, Option.map_some]
    rw [lowTransform_eq_specTransform sqrt nc h step true g param st g (prod G.shape) hgr hp hg hm hdm]

end Update

section Lsum
variable {α : Type} [CommRing α]

theorem lsum_eq_sum (l : List α) : lsum l = l.sum := rfl

theorem lsum_range (n : Nat) (f : Nat → α) : lsum ((List.range n).map f) = ∑ i ∈ Finset.range n, f i := by
  rw [lsum_eq_sum, ← List.sum_toFinset f List.nodup_range, List.toFinset_range]

theorem lsum_range_eq_sumFin (r : Nat) (F : Nat → α) :
    lsum ((List.range r).map F) = LowRank.sumFin r (fun q => F q.val) := by
  unfold LowRank.sumFin
  rw [← Fin.sum_univ_def, ← Finset.sum_range (f := F)]
  exact lsum_range r F

theorem sum_mul_ite_eq (n b : Nat) (f : Nat → α) :
    ∑ j ∈ Finset.range n, f j * (if j = b then 1 else 0) = if b < n then f b else 0 := by
  simp [Finset.sum_ite_eq', mul_ite]

theorem sum_sum_mul_comm (n r : Nat) (G B : Nat → α) (A : Nat → Nat → α) :
    ∑ q ∈ Finset.range r, (∑ i ∈ Finset.range n, G i * A i q) * B q =
      ∑ j ∈ Finset.range n, G j * ∑ q ∈ Finset.range r, A j q * B q := by
  simp only [Finset.sum_mul, Finset.mul_sum]
  rw [Finset.sum_comm]
  exact Finset.sum_congr rfl fun j _ => Finset.sum_congr rfl fun q _ => mul_assoc _ _ _

/-- one entry of the compressed branch on variables: `G` is the fibre of the gradient along the contracted axis, `b`
the output index, `e`, `c` the unpacked eigenvalues and constant. `G j` is pulled out of both double sums
(`sum_sum_mul_comm`) and out of `G b` (a sum against the indicator of `b`); then the summands agree term by term. -/
theorem packed_entry (n r b : Nat) (G e : Nat → α) (P : Mx α) (c : α) :
    c * ((if b < n then G b else 0) - ∑ q ∈ Finset.range r, (∑ i ∈ Finset.range n, G i * P i q) * P b q) +
        ∑ q ∈ Finset.range r, (∑ i ∈ Finset.range n, G i * P i q) * e q * P b q =
      ∑ j ∈ Finset.range n, G j * (c * ((if j = b then 1 else 0) - ∑ q ∈ Finset.range r, P j q * P b q) +
        ∑ q ∈ Finset.range r, P j q * e q * P b q) := by
  rw [← sum_mul_ite_eq n b G]
  simp only [mul_assoc]
  rw [sum_sum_mul_comm n r G (fun q => P b q) P, sum_sum_mul_comm n r G (fun q => e q * P b q) P,
    mul_sub, Finset.mul_sum, Finset.mul_sum, ← Finset.sum_sub_distrib, ← Finset.sum_add_distrib]
  exact Finset.sum_congr rfl fun j _ => by ring

end Lsum

section Packed
variable {α : Type} [CommRing α] [BEq α]

theorem packedStep_eq_tensordot0 (g : Tensor α) (d r : Nat) (P : Mx α) :
    packedStep g d r P = tensordot0 g (denoteStored (.packed d r P)) := by
  unfold packedStep tensordot0 denoteStored
  congr 1
  funext idx
  simp only [lsum_range]
  by_cases hs : pkSkip d r P = true
  · simp only [hs, if_true, precondInit]
    exact (sum_mul_ite_eq (g.shape.headD 0) (idx.getLastD 0) (fun j => g.get (j :: idx.dropLast))).symm
  · simp only [hs, Bool.false_eq_true, if_false, denoteMx, lsum_range]
    exact packed_entry (g.shape.headD 0) r (idx.getLastD 0) (fun j => g.get (j :: idx.dropLast)) (pkE r P) P (pkC r P)

theorem lowBlockStepC_eq (g : Tensor α) (s : Option (Stored α)) :
    lowBlockStepC g s = lowBlockStep g (s.map denoteStored) := by
  cases s with
  | none => rfl
  | some st =>
    cases st with
    | dense P => rfl
    | packed d r P => exact packedStep_eq_tensordot0 g d r P

theorem lowBlockC_eq (g : Tensor α) (slots : List (Option (Stored α))) :
    lowBlockC g slots = lowBlock g (slots.map (Option.map denoteStored)) := by
  unfold lowBlockC lowBlock
  induction slots generalizing g with
  | nil => rfl
  | cons s ss ih => simp only [List.foldl_cons, List.map_cons, lowBlockStepC_eq, ih]

theorem denoteStored_dense (P : Mx α) : denoteStored (.dense P) = P := rfl

theorem slotStored_map (P : List (Stored α)) (slots : List (Option Nat)) :
    (slotStored P (.dense Mx.zero) slots).map (Option.map denoteStored) =
      slotMats (P.map denoteStored) Mx.zero slots := by
  unfold slotStored slotMats
  rw [List.map_map]
  apply List.map_congr_left
  intro o _
  cases o with
  | none => rfl
  | some ix =>
    have h := getD_map denoteStored P ix (.dense Mx.zero)
    rw [denoteStored_dense] at h
    simp only [Function.comp, Option.map_some, h]

theorem lowPrecondGradC_eq [Inhabited α] (G : Geom) (P : List (Stored α)) (g : List α) :
    lowPrecondGradC G P g = lowPrecondGrad G (P.map denoteStored) g := by
  unfold lowPrecondGradC lowPrecondGrad
  congr 1
  funext b gb
  rw [lowBlockC_eq, slotStored_map]

end Packed

/-! ### identity preconditioning (C06: "preconditioning with identity matrices returns the gradient unchanged")

The C02 model of `Preconditioner.preconditioned_grad` (partition → rotate-and-tensordot per block → merge_partitions →
reshape) with `jnp.eye` in every slot it reads. -/

section IdPrecond
variable {α : Type} [CommRing α]

/-- `jnp.eye`: ones on the diagonal, zeros elsewhere -/
def IsIdMx (P : Mx α) : Prop := ∀ i j, P i j = if i = j then 1 else 0

theorem precondInit_isId : IsIdMx (precondInit : Mx α) := fun _ _ => rfl

theorem modeProd_id (S : Tensor α) (a : Nat) (P : Mx α) (hP : IsIdMx P) (idx : List Nat)
    (hlt : idx.getD a 0 < S.shape.getD a 0) : (modeProd S a P).get idx = S.get idx := by
  rw [modeProd_get, lsum_range]
  have : ∀ j, S.get (idx.set a j) * P j (idx.getD a 0) =
      S.get (idx.set a j) * (if j = idx.getD a 0 then 1 else 0) := by
    intro j; rw [hP]
  simp only [this]
  rw [sum_mul_ite_eq, if_pos hlt, set_getD_self]

theorem specStep_id (a : Nat) (S : Tensor α) (s : Option (Mx α)) (hs : ∀ P, s = some P → IsIdMx P)
    (ha : a < S.shape.length) : (specStep a S s).Eqv S := by
  cases s with
  | none => exact Tensor.Eqv.refl S
  | some P =>
    exact ⟨specStep_shape a S _, fun idx hi => modeProd_id S a P (hs P rfl) idx (inBounds_getD hi a ha)⟩

theorem specBlockFrom_id (slots : List (Option (Mx α))) (a : Nat) (S g : Tensor α)
    (hP : ∀ P, some P ∈ slots → IsIdMx P) (hl : a + slots.length ≤ g.shape.length) (h : S.Eqv g) :
    (specBlockFrom a S slots).Eqv g := by
  induction slots generalizing a S with
  | nil => exact h
  | cons s ss ih =>
    rw [List.length_cons] at hl
    rw [specBlockFrom_cons]
    exact ih (a + 1) _ (fun P hm => hP P (List.mem_cons_of_mem _ hm)) (by omega)
      ((specStep_id a S s (fun P e => hP P (e ▸ List.mem_cons_self)) (by rw [h.1]; omega)).trans h)

/-- after `flat_reshape_congr` the flat list is `g.getD (ravel idx)` over `allIdx`, i.e. `g.getD k` over
`range (prod shape)`: the list itself -/
theorem flat_reshape_back (G : Geom) (g : List α) (u : Tensor α) (hg : g.length = prod G.shape)
    (hu : u.Eqv ((ofFlat G.shape g).reshape G.tshape)) :
    (u.reshape G.shape).flat = g := by
  rw [flat_reshape_congr G u _ hu.1 hu]
  have h1 : (((ofFlat G.shape g).reshape G.tshape).reshape G.shape).flat =
      (allIdx G.shape).map fun idx => g.getD (ravel G.shape idx) 0 := by
    simp only [Tensor.flat, Tensor.reshape, ofFlat]
    apply List.map_congr_left
    intro idx hidx
    have hin := allIdx_inBounds G.shape idx hidx
    have hlt := ravel_lt_tshape G hin
    rw [ravel_unravel _ _ hlt, unravel_ravel _ _ hin]
  rw [h1, allIdx_map_comp_ravel G.shape fun k => g.getD k 0, ← hg, range_map_getD_self]

end IdPrecond

end PrecondVerif.DShampoo
