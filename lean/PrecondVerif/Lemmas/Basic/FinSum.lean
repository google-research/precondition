/- Sums over the first `k` or the last `d - r` indices of `Fin d`, written as sums over `Fin d` with an `if`: the fact behind
every "the zero padding adds nothing to a sum". -/
import Mathlib.Algebra.BigOperators.Fin

namespace PrecondVerif
variable {M : Type} [AddCommMonoid M]

theorem sum_fin_castLE {k d : ℕ} (h : k ≤ d) (F : Fin d → M) :
    ∑ a : Fin k, F (Fin.castLE h a) = ∑ c : Fin d, if c.1 < k then F c else 0 := by
  induction d, h using Nat.le_induction with
  | base => exact Finset.sum_congr rfl fun a _ => (if_pos a.2).symm
  | succ d h ih =>
    rw [Fin.sum_univ_castSucc, if_neg (show ¬ (Fin.last d).1 < k from Nat.not_lt.mpr h), add_zero]
    exact ih fun c => F c.castSucc

theorem sum_fin_emb {s N : Nat} (hs : s ≤ N) (f : Fin N → M) (g : Fin s → M)
    (hlive : ∀ l : Fin s, f (Fin.castLE hs l) = g l) (hdead : ∀ l : Fin N, s ≤ l.val → f l = 0) :
    ∑ l, f l = ∑ l, g l := by
  rw [← Finset.sum_congr rfl fun l _ => hlive l, sum_fin_castLE hs f]
  exact Finset.sum_congr rfl fun l _ => by
    split
    · rfl
    · exact hdead l (Nat.not_lt.mp ‹_›)

theorem sum_fin_tail {d r : ℕ} (hr : r ≤ d) (F : Fin d → M) :
    ∑ i : Fin (d - r), F ⟨r + i.val, by have := i.isLt; omega⟩ =
      ∑ i, if r ≤ i.val then F i else 0 := by
  -- split `Fin d` as `Fin r ⊕ Fin (d - r)`: the head contributes nothing to the right-hand side
  rw [← Equiv.sum_comp (finCongr (Nat.add_sub_cancel' hr)) fun i => if r ≤ i.val then F i else 0, Fin.sum_univ_add,
    Finset.sum_eq_zero fun q _ => if_neg (Nat.not_le.mpr q.isLt), zero_add]
  exact Finset.sum_congr rfl fun i _ => (if_pos (Nat.le_add_right r i.val)).symm

end PrecondVerif
