/-
`Except`-valued model functions are made of three shapes: a guard `if p then .error r else x`, a bind `x >>= f` (what `do`
notation unfolds to), and the recursion "map `f` over a list, stop at the first error" (`MapsE`), which several models spell
out by hand.  Here: evaluation and inversion of each.  Core Lean only.
-/
namespace PrecondVerif

universe u v w
variable {ε : Type u} {α β : Type v}

theorem ok_bind (a : α) (f : α → Except ε β) : (Except.ok a >>= f) = f a := rfl

theorem error_bind (e : ε) (f : α → Except ε β) : (Except.error e >>= f) = .error e := rfl

theorem pure_eq_ok (a : α) : (pure a : Except ε α) = .ok a := rfl

theorem guard_error {r : ε} {p : Prop} [Decidable p] {x : Except ε α}
    (hx : ∀ e, x = .error e → e = r) (e : ε) (h : (if p then .error r else x) = .error e) : e = r := by
  split at h
  · exact (Except.error.inj h).symm
  · exact hx e h

theorem guard_ok {r : ε} {p : Prop} [Decidable p] {x : Except ε α} {a : α}
    (h : (if p then .error r else x) = .ok a) : ¬ p ∧ x = .ok a := by
  split at h
  · cases h
  · exact ⟨‹_›, h⟩

theorem bind_ok {x : Except ε α} {f : α → Except ε β} {b : β} :
    (x >>= f) = .ok b ↔ ∃ a, x = .ok a ∧ f a = .ok b := by
  cases x <;> simp [bind, Except.bind]

theorem bind_error {x : Except ε α} {f : α → Except ε β} {e : ε} :
    (x >>= f) = .error e ↔ x = .error e ∨ ∃ a, x = .ok a ∧ f a = .error e := by
  cases x <;> simp [bind, Except.bind]

/-- `m` maps `f` over a list and stops at the first error -/
def MapsE {γ : Type w} (f : γ → Except ε β) (m : List γ → Except ε (List β)) : Prop :=
  m [] = .ok [] ∧ ∀ a l, m (a :: l) = f a >>= fun x => m l >>= fun xs => .ok (x :: xs)

namespace MapsE
variable {γ : Type w} {f : γ → Except ε β} {m : List γ → Except ε (List β)}

theorem cons_ok (hm : MapsE f m) {a : γ} {l : List γ} {r : List β} :
    m (a :: l) = .ok r ↔ ∃ x xs, f a = .ok x ∧ m l = .ok xs ∧ r = x :: xs := by
  rw [hm.2]
  constructor
  · intro h
    obtain ⟨x, hx, h⟩ := bind_ok.mp h
    obtain ⟨xs, hxs, h⟩ := bind_ok.mp h
    exact ⟨x, xs, hx, hxs, (Except.ok.inj h).symm⟩
  · rintro ⟨x, xs, hx, hxs, rfl⟩
    rw [hx, hxs]
    rfl

/-- every result comes from an input -/
theorem ok_mem (hm : MapsE f m) {l : List γ} {r : List β} (h : m l = .ok r) :
    ∀ b ∈ r, ∃ a ∈ l, f a = .ok b := by
  induction l generalizing r with
  | nil => rw [hm.1] at h; cases h; exact fun _ hb => nomatch hb
  | cons a l ih =>
    obtain ⟨x, xs, hx, hxs, rfl⟩ := hm.cons_ok.mp h
    intro b hb
    rcases List.mem_cons.mp hb with rfl | hb
    · exact ⟨a, List.mem_cons_self, hx⟩
    · obtain ⟨a', ha', hfa⟩ := ih hxs b hb
      exact ⟨a', List.mem_cons_of_mem _ ha', hfa⟩

/-- the results, position by position -/
theorem ok_getElem (hm : MapsE f m) {l : List γ} {r : List β} (h : m l = .ok r) :
    r.length = l.length ∧ ∀ i (h₁ : i < l.length) (h₂ : i < r.length), f l[i] = .ok r[i] := by
  induction l generalizing r with
  | nil => rw [hm.1] at h; cases h; exact ⟨rfl, fun _ h₁ => nomatch h₁⟩
  | cons a l ih =>
    obtain ⟨x, xs, hx, hxs, rfl⟩ := hm.cons_ok.mp h
    refine ⟨congrArg (· + 1) (ih hxs).1, fun i h₁ h₂ => ?_⟩
    cases i with
    | zero => exact hx
    | succ i => exact (ih hxs).2 i (Nat.lt_of_succ_lt_succ h₁) (Nat.lt_of_succ_lt_succ h₂)

/-- if every result remembers its input (`g`), the results map back to the inputs -/
theorem ok_map (hm : MapsE f m) (g : β → γ) (hg : ∀ a b, f a = .ok b → g b = a) {l : List γ}
    {r : List β} (h : m l = .ok r) : r.map g = l := by
  induction l generalizing r with
  | nil => rw [hm.1] at h; cases h; rfl
  | cons a l ih =>
    obtain ⟨x, xs, hx, hxs, rfl⟩ := hm.cons_ok.mp h
    rw [List.map_cons, hg a x hx, ih hxs]

theorem all_ok (hm : MapsE f m) (P : β → Prop) {l : List γ} (h : ∀ a ∈ l, ∃ b, f a = .ok b ∧ P b) :
    ∃ r, m l = .ok r ∧ ∀ b ∈ r, P b := by
  induction l with
  | nil => exact ⟨[], hm.1, fun _ hb => nomatch hb⟩
  | cons a l ih =>
    obtain ⟨x, hx, hP⟩ := h a List.mem_cons_self
    obtain ⟨xs, hxs, hPs⟩ := ih fun a ha => h a (List.mem_cons_of_mem _ ha)
    exact ⟨x :: xs, by rw [hm.2, hx, hxs]; rfl, List.forall_mem_cons.mpr ⟨hP, hPs⟩⟩

theorem error (hm : MapsE f m) {l : List γ} {e : ε} (h : m l = .error e) : ∃ a ∈ l, f a = .error e := by
  induction l with
  | nil => rw [hm.1] at h; cases h
  | cons a l ih =>
    rw [hm.2] at h
    rcases bind_error.mp h with ha | ⟨x, _, h⟩
    · exact ⟨a, List.mem_cons_self, ha⟩
    · rcases bind_error.mp h with hl | ⟨_, _, h⟩
      · obtain ⟨b, hb, hfb⟩ := ih hl
        exact ⟨b, List.mem_cons_of_mem _ hb, hfb⟩
      · cases h

end MapsE

end PrecondVerif
