/- Left folds whose step moves the accumulator along a reflexive transitive relation `r`, or selects one of its two arguments:
running maxima (`r := (· ≤ ·)`), running minima (`r := (· ≥ ·)`).  (What every step keeps holds of the result is core's
`List.foldlRecOn`.)  Core Lean only. -/

namespace PrecondVerif
variable {α β σ : Type}

section Rel
variable (r : α → α → Prop) (hr : ∀ a, r a a) (ht : ∀ {a b c}, r a b → r b c → r a c) (step : α → β → α)
include hr ht

theorem rel_foldl (hstep : ∀ a b, r a (step a b)) (l : List β) (a : α) : r a (l.foldl step a) :=
  List.foldlRecOn l step (hr a) fun _ h b _ => ht h (hstep _ b)

/-- `g b` is what the step makes of the element `b` (`id` for a maximum, `|·|` for a maximum of absolute values) -/
theorem rel_foldl_of_mem (g : β → α) (hstep : ∀ a b, r a (step a b)) (hg : ∀ a b, r (g b) (step a b)) :
    ∀ (l : List β) (a : α), ∀ b ∈ l, r (g b) (l.foldl step a)
  | x :: xs, a, b, hb => by
    rcases List.mem_cons.mp hb with rfl | hb
    · exact ht (hg a b) (rel_foldl r hr ht step hstep xs _)
    · exact rel_foldl_of_mem g hstep hg xs _ b hb

end Rel

theorem foldl_eq_init_or_mem (step : α → β → α) (g : β → α) (hsel : ∀ a b, step a b = a ∨ step a b = g b) :
    ∀ (l : List β) (a : α), l.foldl step a = a ∨ ∃ b ∈ l, l.foldl step a = g b
  | [], _ => Or.inl rfl
  | x :: xs, a => by
    rcases foldl_eq_init_or_mem step g hsel xs (step a x) with h | ⟨b, hb, h⟩
    · rcases hsel a x with h' | h'
      · exact Or.inl (h.trans h')
      · exact Or.inr ⟨x, List.mem_cons_self, h.trans h'⟩
    · exact Or.inr ⟨b, List.mem_cons_of_mem _ hb, h⟩

end PrecondVerif
