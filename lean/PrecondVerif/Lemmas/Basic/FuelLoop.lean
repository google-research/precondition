/-
Fuelled `while` loops, `loop (f + 1) a = if cond a then loop f (body a) else a`, as the models write them: what the
body preserves on states the condition admits holds at the end (`fuelLoop_induct`), and two loops in lockstep
(`fuelLoop_rel`).  The defining equations are taken as hypotheses (`rfl` at the use sites), so one statement serves every
such loop.
-/

namespace PrecondVerif

theorem fuelLoop_induct {S : Type} {P : S → Prop} {loop : Nat → S → S} {cond : S → Bool} {body : S → S}
    (loop_zero : ∀ a, loop 0 a = a) (loop_succ : ∀ f a, loop (f + 1) a = if cond a then loop f (body a) else a)
    (hbody : ∀ a, cond a = true → P a → P (body a)) (f : Nat) : ∀ a, P a → P (loop f a) := by
  induction f with
  | zero => intro a h; rw [loop_zero]; exact h
  | succ f ih =>
    intro a h
    rw [loop_succ]
    split
    · exact ih _ (hbody a ‹_› h)
    · exact h

theorem fuelLoop_rel {S₁ S₂ : Type} {Rel : S₁ → S₂ → Prop} {loop₁ : Nat → S₁ → S₁} {loop₂ : Nat → S₂ → S₂}
    {cond₁ : S₁ → Bool} {cond₂ : S₂ → Bool} {body₁ : S₁ → S₁} {body₂ : S₂ → S₂}
    (loop₁_zero : ∀ a, loop₁ 0 a = a) (loop₁_succ : ∀ f a, loop₁ (f + 1) a = if cond₁ a then loop₁ f (body₁ a) else a)
    (loop₂_zero : ∀ b, loop₂ 0 b = b) (loop₂_succ : ∀ f b, loop₂ (f + 1) b = if cond₂ b then loop₂ f (body₂ b) else b)
    (hcond : ∀ {a b}, Rel a b → cond₁ a = cond₂ b) (hbody : ∀ {a b}, Rel a b → Rel (body₁ a) (body₂ b))
    (f : Nat) : ∀ {a b}, Rel a b → Rel (loop₁ f a) (loop₂ f b) := by
  induction f with
  | zero => intro a b h; rw [loop₁_zero, loop₂_zero]; exact h
  | succ f ih =>
    intro a b h
    rw [loop₁_succ, loop₂_succ, hcond h]
    split
    · exact ih (hbody h)
    · exact h

end PrecondVerif
