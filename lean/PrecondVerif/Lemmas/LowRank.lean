/-
Lemmas for C10 (`Model/LowRank.lean`): what each slot of the packed table `fdPack` holds; the compressed branch of
`_precondition_block` as multiplication by the dense matrix the packed preconditioner denotes (through Mathlib matrices, `toM`);
`blockLoop` on a matrix; the flip / roll permutation and the fields `_low_rank_root` packs.
-/
import PrecondVerif.Model.LowRank
import PrecondVerif.Lemmas.Shapes
import PrecondVerif.Lemmas.Basic.FinSum
import Mathlib.Data.Matrix.Mul

namespace PrecondVerif.LowRank
variable {α : Type}

theorem Mat.congr_idx {m n : Nat} (P : Mat α m n) {a a' : Fin m} {b b' : Fin n}
    (ha : a.val = a'.val) (hb : b.val = b'.val) : P a b = P a' b' := by
  rw [Fin.ext ha, Fin.ext hb]

theorem sub_lt_of_tail_row {d r : Nat} (i : Fin d) (h : d - r ≤ i.val) : i.val - (d - r) < r := by
  have := i.isLt; omega

section Slots
variable [Zero α] [One α] {d r : Nat}

/-- the six `.at[..].set(..)` of `fdPack` read from the last one back: what slot `(i, j)` holds -/
theorem fdPack_apply (F : Fields α d r) (i : Fin d) (j : Fin (r + 2)) :
    fdPack F i j =
      if i.val = d - 1 ∧ j.val = r then (if F.hasZeros then 1 else 0)
      else if h : d - r ≤ i.val ∧ j.val = r + 1 then F.eigvals ⟨i.val - (d - r), sub_lt_of_tail_row i h.1⟩
      else if i.val = 1 ∧ j.val = r + 1 then F.tail
      else if i.val = 0 ∧ j.val = r + 1 then F.const
      else if h : i.val < r ∧ j.val = r then F.invEigvals ⟨i.val, h.1⟩
      else if h : j.val < r then F.eigvecs i ⟨j.val, h⟩
      else 0 := rfl

/-! The table region by region. Columns `< r` hold `eigvecs`; column `r` (`-2`) holds `invEigvals` in rows `< r`, the flag
in row `d - 1`, nothing between; column `r + 1` (`-1`) holds `const`, `tail` in rows 0, 1, `eigvals` in rows `≥ d - r`,
nothing between. The side conditions `r < d`, `r + 1 < d` say that a later `.set` does not overwrite the slot. -/

theorem fdPack_eigvecs (F : Fields α d r) (i : Fin d) (j : Fin (r + 2)) (hj : j.val < r) :
    fdPack F i j = F.eigvecs i ⟨j.val, hj⟩ := by
  have h1 : ¬ j.val = r := hj.ne
  have h2 : ¬ j.val = r + 1 := (Nat.lt_succ_of_lt hj).ne
  rw [fdPack_apply, if_neg (not_and_of_not_right _ h1), dif_neg (not_and_of_not_right _ h2),
    if_neg (not_and_of_not_right _ h2), if_neg (not_and_of_not_right _ h2), dif_neg (not_and_of_not_right _ h1), dif_pos hj]

theorem fdPack_invEigvals (F : Fields α d r) (i : Fin d) (j : Fin (r + 2)) (hi : i.val < r) (hd : r + 1 < d)
    (hj : j.val = r) : fdPack F i j = F.invEigvals ⟨i.val, hi⟩ := by
  -- `hd`: a row `< r` is not the flag's row `d - 1`
  have h2 : ¬ j.val = r + 1 := fun h => absurd (hj.symm.trans h) (Nat.succ_ne_self r).symm
  rw [fdPack_apply, if_neg (not_and_of_not_left _ (by omega)), dif_neg (not_and_of_not_right _ h2),
    if_neg (not_and_of_not_right _ h2), if_neg (not_and_of_not_right _ h2), dif_pos ⟨hi, hj⟩]

theorem fdPack_flag (F : Fields α d r) (i : Fin d) (j : Fin (r + 2)) (hi : i.val = d - 1) (hj : j.val = r) :
    fdPack F i j = if F.hasZeros then 1 else 0 := by
  rw [fdPack_apply, if_pos ⟨hi, hj⟩]

theorem fdPack_invCol_unused (F : Fields α d r) (i : Fin d) (j : Fin (r + 2)) (h1 : r ≤ i.val) (h2 : i.val < d - 1)
    (hj : j.val = r) : fdPack F i j = 0 := by
  have hj2 : ¬ j.val = r + 1 := fun h => absurd (hj.symm.trans h) (Nat.succ_ne_self r).symm
  rw [fdPack_apply, if_neg (not_and_of_not_left _ h2.ne), dif_neg (not_and_of_not_right _ hj2),
    if_neg (not_and_of_not_right _ hj2), if_neg (not_and_of_not_right _ hj2),
    dif_neg (not_and_of_not_left _ (Nat.not_lt.mpr h1)), dif_neg (by omega)]

theorem fdPack_const (F : Fields α d r) (i : Fin d) (j : Fin (r + 2)) (hi : i.val = 0) (hd : r < d) (hj : j.val = r + 1) :
    fdPack F i j = F.const := by
  -- `hd`: row 0 is not among the `eigvals` rows `≥ d - r` (nor is it row 1)
  have hj1 : ¬ j.val = r := fun h => absurd (hj.symm.trans h) (Nat.succ_ne_self r)
  rw [fdPack_apply, if_neg (not_and_of_not_right _ hj1), dif_neg (not_and_of_not_left _ (by omega)),
    if_neg (not_and_of_not_left _ (by omega)), if_pos ⟨hi, hj⟩]

theorem fdPack_tail (F : Fields α d r) (i : Fin d) (j : Fin (r + 2)) (hi : i.val = 1) (hd : r + 1 < d) (hj : j.val = r + 1) :
    fdPack F i j = F.tail := by
  -- `hd`: row 1 is not among the `eigvals` rows `≥ d - r`
  have hj1 : ¬ j.val = r := fun h => absurd (hj.symm.trans h) (Nat.succ_ne_self r)
  rw [fdPack_apply, if_neg (not_and_of_not_right _ hj1), dif_neg (not_and_of_not_left _ (by omega)), if_pos ⟨hi, hj⟩]

theorem fdPack_eigvals (F : Fields α d r) (i : Fin d) (j : Fin (r + 2)) (hi : d - r ≤ i.val) (hj : j.val = r + 1) :
    fdPack F i j = F.eigvals ⟨i.val - (d - r), sub_lt_of_tail_row i hi⟩ := by
  have hj1 : ¬ j.val = r := fun h => absurd (hj.symm.trans h) (Nat.succ_ne_self r)
  rw [fdPack_apply, if_neg (not_and_of_not_right _ hj1), dif_pos ⟨hi, hj⟩]

theorem fdPack_lastCol_unused (F : Fields α d r) (i : Fin d) (j : Fin (r + 2)) (h1 : 2 ≤ i.val) (h2 : i.val < d - r)
    (hj : j.val = r + 1) : fdPack F i j = 0 := by
  have hj1 : ¬ j.val = r := fun h => absurd (hj.symm.trans h) (Nat.succ_ne_self r)
  rw [fdPack_apply, if_neg (not_and_of_not_right _ hj1), dif_neg (not_and_of_not_left _ (Nat.not_le.mpr h2)),
    if_neg (not_and_of_not_left _ (by omega)), if_neg (not_and_of_not_left _ (by omega)),
    dif_neg (not_and_of_not_right _ hj1), dif_neg (by omega)]

end Slots

theorem fdUnpack_fdPack [Zero α] [One α] [BEq α] [LawfulBEq α] (h10 : (1 : α) ≠ 0)
    {d r : Nat} (h : r + 2 < d) (F : Fields α d r) : fdUnpack h (fdPack F) = F := by
  obtain ⟨V, ev, ie, c, t, hz⟩ := F
  unfold fdUnpack
  congr 1
  · funext i j
    exact fdPack_eigvecs _ i _ j.isLt
  · funext i
    rw [fdPack_eigvals _ _ _ (Nat.le_add_right _ _) rfl]
    exact congrArg ev (Fin.ext (Nat.add_sub_cancel_left ..))
  · funext i
    exact fdPack_invEigvals _ _ _ _ (by omega) rfl
  · exact fdPack_const _ _ _ rfl (by omega) rfl
  · exact fdPack_tail _ _ _ rfl (by omega) rfl
  · rw [fdPack_flag _ _ _ rfl rfl]
    cases hz
    · simp
    · simp [h10]

open Matrix

theorem flag_roundtrip [Zero α] [One α] [BEq α] [LawfulBEq α] (x : α) (hx : x = 0 ∨ x = 1) :
    (if (!(x == 0)) = true then (1 : α) else 0) = x := by
  rcases hx with rfl | rfl
  · simp
  · by_cases h : (1 : α) = 0 <;> simp [h]

theorem sumFin_eq [AddCommMonoid α] (n : Nat) (f : Fin n → α) : sumFin n f = ∑ i, f i := by
  rw [Fin.sum_univ_def]; rfl

/-- a model matrix read as a Mathlib matrix (definitionally the same function) -/
abbrev toM {m n : Nat} (A : Mat α m n) : Matrix (Fin m) (Fin n) α := A

theorem eq_of_toM_eq {m n : Nat} {A B : Mat α m n} (h : toM A = toM B) : A = B := h

theorem toM_transpose {m n : Nat} (A : Mat α m n) : toM A.transpose = (toM A)ᵀ := rfl

theorem Mat.transpose_transpose {m n : Nat} (A : Mat α m n) : A.transpose.transpose = A := rfl

theorem denoteP_eq [Add α] [Sub α] [Mul α] [Zero α] [One α] [BEq α] {d r : Nat} (h : r + 2 < d) (P : Mat α d (r + 2)) :
    denoteP h P = denote (lowRankUnpack h P).eigvecs (lowRankUnpack h P).invEigvals (lowRankUnpack h P).const := rfl

theorem applyDense_eq [CommRing α] {d n : Nat} (P : Mat α d d) (G : Mat α d n) :
    toM (applyDense P G) = (toM G)ᵀ * toM P := by
  funext t b
  simp [applyDense, sumFin_eq, Matrix.mul_apply]

theorem denote_eq [CommRing α] {d r : Nat} (V : Mat α d r) (e : Vec α r) (c : α) :
    toM (denote V e c) = c • (1 - toM V * (toM V)ᵀ) + toM V * Matrix.diagonal e * (toM V)ᵀ := by
  funext i b
  simp only [Matrix.add_apply, Matrix.smul_apply, Matrix.sub_apply, smul_eq_mul, Matrix.mul_apply (N := (toM V)ᵀ),
    Matrix.mul_diagonal, Matrix.transpose_apply, Matrix.one_apply]
  simp only [denote, sumFin_eq]

theorem applyPacked_new_eq [CommRing α] {d r n : Nat} (V : Mat α d r) (e : Vec α r) (c : α)
    (G : Mat α d n) :
    toM (applyPacked V e c false G) =
      c • ((toM G)ᵀ - (toM G)ᵀ * toM V * (toM V)ᵀ) + (toM G)ᵀ * toM V * Matrix.diagonal e * (toM V)ᵀ := by
  funext t b
  simp only [Matrix.add_apply, Matrix.smul_apply, Matrix.sub_apply, smul_eq_mul, Matrix.mul_apply (N := (toM V)ᵀ),
    Matrix.mul_diagonal, Matrix.mul_apply (N := toM V), Matrix.transpose_apply]
  simp only [applyPacked, sumFin_eq, Bool.false_eq_true, if_false]

theorem applyPacked_skip [Add α] [Sub α] [Mul α] [Zero α] {d r n : Nat} (V : Mat α d r) (e : Vec α r) (c : α)
    (G : Mat α d n) : applyPacked V e c true G = G.transpose := by
  funext t b; simp [applyPacked, Mat.transpose]

theorem applyPacked_eq_applyDense [CommRing α] {d r n : Nat} (V : Mat α d r) (e : Vec α r) (c : α)
    (G : Mat α d n) : applyPacked V e c false G = applyDense (denote V e c) G := by
  apply eq_of_toM_eq
  rw [applyPacked_new_eq, applyDense_eq, denote_eq]
  simp only [Matrix.mul_add, Matrix.mul_smul, Matrix.mul_sub, Matrix.mul_one, Matrix.mul_assoc]

/-- one axis with a packed preconditioner, as the dense matrix it denotes (the bare roll when flagged) -/
theorem stepDenoted_packed [Add α] [Sub α] [Mul α] [Zero α] [One α] [BEq α] {d n r : Nat} (h : r + 2 < d) (P : Nat → Nat → α) (G : Mat α d n) :
    stepDenoted (.packed r P) d n G =
      if (lowRankUnpack h (ofIdx d (r + 2) P)).hasZeros then G.transpose
      else applyDense (denote (lowRankUnpack h (ofIdx d (r + 2) P)).eigvecs
        (lowRankUnpack h (ofIdx d (r + 2) P)).invEigvals (lowRankUnpack h (ofIdx d (r + 2) P)).const) G := by
  simp only [stepDenoted, dif_pos h]

theorem stepDenoted_roll [Add α] [Sub α] [Mul α] [Zero α] [One α] [BEq α] (d n : Nat) (G : Mat α d n) :
    stepDenoted .roll d n G = G.transpose := rfl

theorem stepPacked_eq_stepDenoted [CommRing α] [BEq α] :
    (stepPacked : AxisOp α → (d n : Nat) → Mat α d n → Mat α n d) = stepDenoted := by
  funext op d n G
  cases op with
  | roll => rfl
  | dense P => rfl
  | packed r P =>
    by_cases h : r + 2 < d
    · rw [stepDenoted_packed h, stepPacked, dif_pos h, applyPackedP]
      cases (lowRankUnpack h (ofIdx d (r + 2) P)).hasZeros
      · rw [applyPacked_eq_applyDense, if_neg Bool.false_ne_true]
      · rw [applyPacked_skip, if_pos rfl]
    · simp only [stepPacked, stepDenoted, dif_neg h]

theorem view_unview [Zero α] (n d : Nat) (M : Mat α n d) : view n d (unview n d M) = M := by
  funext i j
  simp only [view, unview]
  rw [dif_pos (Shapes.mul_add_lt_mul i.val n d j.val i.isLt j.isLt)]
  exact M.congr_idx (Shapes.divmod_of_lt i.val j.val d j.isLt).1 (Shapes.divmod_of_lt i.val j.val d j.isLt).2

theorem rd_tab [Zero α] (n : Nat) (t : Nat → α) (k : Nat) (hk : k < n) : rd (tab n t) k = t k := by
  simp [rd, tab, Array.getD, hk]

theorem view_rd_tab [Zero α] (d n : Nat) (t : Nat → α) : view d n (rd (tab (d * n) t)) = view d n t := by
  funext i j
  simp only [view]
  exact rd_tab _ _ _ (Shapes.mul_add_lt_mul i.val d n j.val i.isLt j.isLt)

/-- flat row-major data of a matrix, as the array `blockLoop` carries -/
def flat [Zero α] {m n : Nat} (M : Mat α m n) : Array α := tab (m * n) (unview m n M)

theorem view_rd_flat [Zero α] {m n : Nat} (M : Mat α m n) : view m n (rd (flat M)) = M := by
  rw [flat, view_rd_tab, view_unview]

theorem blockLoop_matrix [Zero α] (step : AxisOp α → (d n : Nat) → Mat α d n → Mat α n d) (a b : AxisOp α) {m n : Nat}
    (G : Mat α m n) : blockLoop step [a, b] [m, n] (flat G) = flat (step b n m (step a m n G)) := by
  simp only [blockLoop, size, List.cons_append, List.nil_append, view_rd_flat, view_rd_tab, view_unview]
  rw [flat]

theorem perm_injective (d : Nat) (neg : Bool) (k : Nat) : Function.Injective (perm d neg k) := by
  intro i j h
  have h' := congrArg Fin.val h
  have hi := i.isLt
  have hj := j.isLt
  cases neg
  · simp only [perm, Bool.false_eq_true, if_false] at h'
    exact Fin.ext (by omega)
  · simp only [perm, if_true] at h'
    -- `d` divides `a - b`, which is `< d`, so `a ≤ b`; both ways round
    have key : ∀ a b : Nat, a < d → (a + k) % d = (b + k) % d → a ≤ b := fun a b ha hab => by
      have h0 := Nat.sub_mod_eq_zero_of_mod_eq hab
      rw [Nat.add_sub_add_right, Nat.mod_eq_of_lt (Nat.lt_of_le_of_lt (Nat.sub_le a b) ha)] at h0
      exact Nat.le_of_sub_eq_zero h0
    exact Fin.ext (Nat.le_antisymm (key _ _ hi h') (key _ _ hj h'.symm))

section
variable [Add α] [Mul α] [Div α] [Zero α] [One α] [BEq α] [Max α] [LE α] [DecidableLE α] [NatCast α]

theorem lowRankRootFields_eigvecs {d r : Nat} (hr : r ≤ d) (pw : α → α) (neg : Bool) (ps : Option Nat) (ridge : α)
    (e : Vec α d) (U : Mat α d d) :
    (lowRankRootFields hr pw neg ps ridge e U).eigvecs = fun a q => U a (perm d neg (d - ps.getD d) (Fin.castLE hr q)) := rfl

theorem lowRankRootFields_invEigvals {d r : Nat} (hr : r ≤ d) (pw : α → α) (neg : Bool) (ps : Option Nat) (ridge : α)
    (e : Vec α d) (U : Mat α d d) :
    (lowRankRootFields hr pw neg ps ridge e U).invEigvals =
      fun q => invEigs pw ridge (maskedEigs ps e) (perm d neg (d - ps.getD d) (Fin.castLE hr q)) := rfl
end

/-- in the rolled / flipped order `σ`, the matrix denoted by the root's fields is `U' diag(w) U'ᵀ` with the first `r`
directions keeping their own root value and every other direction getting `const`; only `U Uᵀ = 1` is used -/
theorem denote_root_fields [Field α] [BEq α] [Max α] [LE α] [DecidableLE α] {d r : Nat} (hr : r ≤ d) (pw : α → α) (neg : Bool)
    (ps : Option Nat) (ridge : α) (e : Vec α d) (U : Mat α d d) (hU : toM U * (toM U)ᵀ = 1) :
    let F := lowRankRootFields hr pw neg ps ridge e U
    let σ := perm d neg (d - ps.getD d)
    let invE := invEigs pw ridge (maskedEigs ps e)
    toM (denote F.eigvecs F.invEigvals F.const) =
      toM (fun a k => U a (σ k)) * Matrix.diagonal (fun k => if k.val < r then invE (σ k) else F.const)
        * (toM fun a k => U a (σ k))ᵀ := by
  intro F σ invE
  funext i b
  have hδ : (if i = b then (1 : α) else 0) = ∑ k, U i (σ k) * U b (σ k) := by
    have h1 := congrFun (congrFun hU i) b
    rw [Matrix.mul_apply] at h1
    simp only [Matrix.transpose_apply, Matrix.one_apply] at h1
    rw [← h1]
    exact ((Finite.injective_iff_bijective.mp (perm_injective d neg _)).sum_comp fun j => U i j * U b j).symm
  have hL : toM (denote F.eigvecs F.invEigvals F.const) i b =
      F.const * ((if i = b then (1 : α) else 0) - ∑ q : Fin r, U i (σ (Fin.castLE hr q)) * U b (σ (Fin.castLE hr q)))
        + ∑ q : Fin r, U i (σ (Fin.castLE hr q)) * invE (σ (Fin.castLE hr q)) * U b (σ (Fin.castLE hr q)) := by
    simp only [denote, sumFin_eq, F, lowRankRootFields_eigvecs, lowRankRootFields_invEigvals, σ, invE]
  rw [hL, sum_fin_castLE hr (fun k => U i (σ k) * U b (σ k)),
    sum_fin_castLE hr (fun k => U i (σ k) * invE (σ k) * U b (σ k)), hδ]
  rw [Matrix.mul_apply]
  simp only [Matrix.mul_diagonal, Matrix.transpose_apply]
  rw [← Finset.sum_sub_distrib, Finset.mul_sum, ← Finset.sum_add_distrib]
  apply Finset.sum_congr rfl
  intro k _
  by_cases hkr : k.val < r
  · simp only [hkr, if_true]; ring
  · simp only [hkr, if_false]; ring

theorem const_root_fields [Field α] [BEq α] [Max α] [LE α] [DecidableLE α] {d r : Nat} (hr : r ≤ d) (pw : α → α) (neg : Bool)
    (ps : Option Nat) (ridge : α) (e : Vec α d) (U : Mat α d d) :
    (lowRankRootFields hr pw neg ps ridge e U).const =
      (∑ k : Fin d, if r ≤ k.val then invEigs pw ridge (maskedEigs ps e) (perm d neg (d - ps.getD d) k) else 0)
        / (if r < ps.getD d then ((ps.getD d - r : Nat) : α) else 1) := by
  -- the sum over the tail `r ≤ k`, written as the model writes it: `sumFin (d - r) toAvg`
  rw [← sum_fin_tail hr fun k => invEigs pw ridge (maskedEigs ps e) (perm d neg (d - ps.getD d) k), ← sumFin_eq]
  rfl

theorem perm_flip (d k : Nat) (i : Fin d) : (perm d false k i).val = d - 1 - i.val := rfl

theorem perm_roll (d p : Nat) (hp : p ≤ d) (i : Fin d) :
    (perm d true (d - p) i).val = if i.val < p then i.val + (d - p) else i.val - p := by
  have hi := i.isLt
  simp only [perm, if_true]
  split
  · exact Nat.mod_eq_of_lt (by omega)
  · have : i.val + (d - p) = (i.val - p) + d := by omega
    rw [this, Nat.add_mod_right, Nat.mod_eq_of_lt (by omega)]

theorem invEigs_padded [Field α] [BEq α] [LawfulBEq α] [Max α] [LE α] [DecidableLE α] {d : Nat} (pw : α → α) (neg : Bool) (p : Nat) (hp : p ≤ d)
    (ridge : α) (e : Vec α d) (k : Fin d) (hk : p ≤ k.val) :
    invEigs pw ridge (maskedEigs (some p) e) (perm d neg (d - p) k) = 0 := by
  have hlt := k.isLt
  have hidx : (perm d neg (d - p) k).val < d - p := by
    cases neg
    · rw [perm_flip]; omega
    · rw [perm_roll d p hp, if_neg (by omega)]; omega
  have hm : maskedEigs (some p) e (perm d neg (d - p) k) = 0 := by
    simp only [maskedEigs, ixMask]
    rw [if_neg (by omega), mul_zero]
  simp only [invEigs, hm, beq_self_eq_true, Bool.true_or, if_true]

theorem invEigs_exact_pos [Field α] [LinearOrder α] [BEq α] [LawfulBEq α] {d : Nat} (pw : α → α) (p : Nat)
    (hpw : ∀ x : α, 0 < x → pw x ^ p * x = 1) (ridge : α) (e : Vec α d) (i : Fin d)
    (hpos : 0 < e i) (hi : ridge ≤ e i) : invEigs pw ridge e i ^ p * e i = 1 := by
  have hne : (e i == 0) = false := by
    rw [beq_eq_false_iff_ne]; exact ne_of_gt hpos
  have hle : ¬ max (e i) ridge ≤ 0 := by
    rw [max_eq_left hi]; exact not_le.mpr hpos
  simp only [invEigs, hne, hle, decide_false, Bool.or_self, Bool.false_eq_true, if_false]
  rw [max_eq_left hi]
  exact hpw _ hpos

theorem invEigs_zero_ridge [Field α] [LinearOrder α] [BEq α] {d : Nat} (pw : α → α)
    (ridge : α) (hridge : ridge ≤ 0) (e : Vec α d) (i : Fin d) (hi : e i ≤ 0) : invEigs pw ridge e i = 0 := by
  have hle : max (e i) ridge ≤ 0 := max_le hi hridge
  simp only [invEigs, hle, decide_true, Bool.or_true, if_true]

theorem lowRankRoot_unpack [Field α] [BEq α] [LawfulBEq α] [Max α] [LE α] [DecidableLE α] {d r : Nat} (h : r + 2 < d) (pw : α → α) (neg : Bool)
    (ps : Option Nat) (hps : ps ≠ some 0) (ridge : α) (e : Vec α d) (U : Mat α d d) :
    lowRankUnpack h (lowRankRoot h pw neg ps ridge e U) =
      lowRankRootFields (r := r) (by omega) pw neg ps ridge e U := by
  have hval : lowRankRoot h pw neg ps ridge e U =
      lowRankPack (lowRankRootFields (r := r) (by omega) pw neg ps ridge e U).eigvecs
        (lowRankRootFields (r := r) (by omega) pw neg ps ridge e U).invEigvals
        (lowRankRootFields (r := r) (by omega) pw neg ps ridge e U).const := by
    unfold lowRankRoot
    cases ps with
    | none => rfl
    | some p =>
      cases p with
      | zero => exact absurd rfl hps
      | succ q => rfl
  rw [hval]
  simp only [lowRankUnpack, lowRankPack, fdUnpack_fdPack (one_ne_zero) h]
  -- record eta: `lowRankRootFields` has `hasZeros := false`
  rfl

end PrecondVerif.LowRank
