/-
Helper lemmas for C03 about `Model/Gate.lean`: IEEE comparison facts of `XF`, the forms of `select` and `whereSel`,
what one update does to a slot, and the equations of the warm-start / reset runs that `Lemmas/ComposeFD.lean` builds on.
Core Lean only (no Mathlib needed).
-/
import PrecondVerif.Model.Gate

namespace PrecondVerif.Gate

namespace XF

theorem ge_nan_left (b : XF) : ge nan b = false := by cases b <;> rfl
theorem ge_nan_right (a : XF) : ge a nan = false := by cases a <;> rfl
theorem lt_nan_left (b : XF) : lt nan b = false := by cases b <;> rfl
theorem lt_nan_right (a : XF) : lt a nan = false := by cases a <;> rfl

theorem ge_eq_not_lt {a b : XF} (ha : a.isNaN = false) (hb : b.isNaN = false) :
    ge a b = !lt a b := by
  cases a with
  | nan => cases ha
  | fin x =>
    cases b with
    | nan => cases hb
    | fin y => exact (decide_eq_decide.mpr Rat.not_lt.symm).trans (decide_not ..)
    | pinf => rfl
    | ninf => rfl
  | pinf =>
    cases b with
    | nan => cases hb
    | _ => rfl
  | ninf =>
    cases b with
    | nan => cases hb
    | _ => rfl

theorem lt_irrefl (a : XF) : lt a a = false := by
  cases a <;> simp [lt]

theorem finite_or_ninf_of_lt {a b : XF} (h : lt a b = true) : a.isNaN = false ∧ a ≠ pinf := by
  cases a <;> cases b <;> simp_all [lt, isNaN]

theorem zero_eq : (0 : XF) = fin 0 := rfl
theorem one_eq : (1 : XF) = fin 1 := rfl
theorem fin_add (a b : Rat) : fin a + fin b = fin (a + b) := rfl
theorem fin_mul (a b : Rat) : fin a * fin b = fin (a * b) := rfl
theorem fin_sub (a b : Rat) : fin a - fin b = fin (a - b) := congrArg fin (Rat.sub_eq_add_neg a b).symm

theorem nan_add (x : XF) : nan + x = nan := by cases x <;> rfl
theorem add_nan (x : XF) : x + nan = nan := by cases x <;> rfl
theorem nan_mul (x : XF) : nan * x = nan := by cases x <;> rfl
theorem mul_nan (x : XF) : x * nan = nan := by cases x <;> rfl

end XF

theorem xf_fin_lt (e t : Rat) : (XF.fin e).lt (XF.fin t) = true ↔ e < t := decide_eq_true_iff

theorem skip_eq {err thr : XF} (hthr : thr.isNaN = false) :
    skip err thr = !(!err.isNaN && err.lt thr) := by
  unfold skip
  cases h : err.isNaN
  · rw [XF.ge_eq_not_lt h hthr]
    rfl
  · rfl

theorem skip_self {thr : XF} (hthr : thr.isNaN = false) : skip thr thr = true := by
  rw [skip_eq hthr, XF.lt_irrefl, Bool.and_false]
  rfl

theorem skip_nan (thr : XF) : skip XF.nan thr = true := rfl

theorem select_of_skip {π : Type} {err thr : XF} (new old : π) (h : skip err thr = true) :
    select err thr new old = old :=
  if_pos h

/-- an error equal to the threshold is rejected: what makes the `error = threshold` carry of a non-refresh step harmless -/
theorem select_self {π : Type} {thr : XF} (hthr : thr.isNaN = false) (new old : π) : select thr thr new old = old :=
  select_of_skip _ _ (skip_self hthr)

theorem select_eq_ite {π : Type} {err thr : XF} (hthr : thr.isNaN = false) (new old : π) :
    select err thr new old = if (!err.isNaN && err.lt thr) then new else old := by
  unfold select
  rw [skip_eq hthr]
  cases (!err.isNaN && err.lt thr) <;> rfl

theorem select_spec {π : Type} {err thr : XF} (hthr : thr.isNaN = false) (new old : π) :
    select err thr new old = old
      ∨ (select err thr new old = new ∧ err.isNaN = false ∧ err.lt thr = true) := by
  rw [select_eq_ite hthr]
  cases h : (!err.isNaN && err.lt thr)
  · exact Or.inl rfl
  · exact Or.inr ⟨rfl, (Bool.and_eq_true_iff.mp h).imp_left (Bool.not_eq_true' _).mp⟩

theorem whereSel_eq {α : Type} {n : Nat} (p : Bool) (old new : Vector α n) :
    whereSel p old new = if p then old else new := by
  ext i hi
  cases p <;> simp [whereSel]

theorem performStep_iff {itv count : Nat} : performStep itv count = true ↔ count % itv = 0 :=
  beq_iff_eq

theorem performStep_one (count : Nat) : performStep 1 count = true :=
  performStep_iff.mpr (Nat.mod_one count)

/-- The `steps == 1` shortcut of `_update_preconditioners_fn` changes nothing. (`Schedule.dsCandidate_eq` is the same fact
about the same code in the other model of it: a change of `_update_preconditioners_fn` touches both.) -/
theorem candidate_eq {π : Type} (itv count : Nat) (thr : XF) (root : Unit → π × XF) (junk : π) :
    candidate itv count thr root junk
      = if performStep itv count then root () else (junk, thr) := by
  unfold candidate efficientCond
  by_cases h : itv = 1
  · subst h
    simp [performStep_one]
  · simp [h]

/-- a selector that behaves like `select` (true for the selectors of all three modes) -/
def SelOK {π : Type} (sel : Selector π) : Prop := ∀ err thr new old, sel err thr new old = select err thr new old

theorem slotStep_eq {π : Type} {sel : Selector π} (hsel : SelOK sel) (thr : XF) (itv count : Nat)
    (s : Slot π) (i : Inp π) :
    slotStep sel thr itv count s i
      = if performStep itv count then ⟨select i.err thr i.cand s.precond, i.err⟩
        else ⟨select thr thr i.junk s.precond, s.err⟩ := by
  unfold slotStep
  simp only [hsel _ _ _ _, candidate_eq]
  cases performStep itv count <;> rfl

theorem slotStep_spec {π : Type} {sel : Selector π} (hsel : SelOK sel) {thr : XF} (hthr : thr.isNaN = false)
    (itv count : Nat) (s : Slot π) (i : Inp π) :
    (slotStep sel thr itv count s i).precond = s.precond
      ∨ ((slotStep sel thr itv count s i).precond = i.cand
          ∧ count % itv = 0 ∧ i.err.isNaN = false ∧ i.err.lt thr = true) := by
  rw [slotStep_eq hsel]
  cases hp : performStep itv count
  · rw [if_neg Bool.false_ne_true]
    exact Or.inl (select_self hthr _ _)
  · rw [if_pos rfl]
    exact (select_spec hthr i.cand s.precond).imp_right (And.imp_right (And.intro (performStep_iff.mp hp)))

theorem slotStep_good {π : Type} {sel : Selector π} (hsel : SelOK sel) {thr : XF} (hthr : thr.isNaN = false)
    (itv count : Nat) (Good : π → Prop) (s : Slot π) (i : Inp π) (h : Good s.precond)
    (hi : i.err.isNaN = false → i.err.lt thr = true → Good i.cand) :
    Good (slotStep sel thr itv count s i).precond := by
  rcases slotStep_spec hsel hthr itv count s i with h' | ⟨h', _, h2, h3⟩
  · rw [h']
    exact h
  · rw [h']
    exact hi h2 h3

theorem stateStep_good {π : Type} {sel : Selector π} (hsel : SelOK sel) {thr : XF} (hthr : thr.isNaN = false)
    (itv count : Nat) (Good : π → Prop) (ss : List (Slot π)) (ins : List (Inp π))
    (h0 : ∀ s ∈ ss, Good s.precond)
    (hroot : ∀ i ∈ ins, i.err.isNaN = false → i.err.lt thr = true → Good i.cand) :
    ∀ s ∈ stateStep sel thr itv count ss ins, Good s.precond := by
  intro s hs
  rw [stateStep, ← List.map_uncurry_zip_eq_zipWith] at hs
  obtain ⟨⟨a, i⟩, hz, rfl⟩ := List.mem_map.mp hs
  obtain ⟨ha, hi⟩ := List.of_mem_zip hz
  exact slotStep_good hsel hthr itv count Good a i (h0 a ha) (hroot i hi)

theorem slotRun_cons {π : Type} (sel : Selector π) (thr : XF) (itv count : Nat) (s : Slot π) (i : Inp π)
    (is : List (Inp π)) :
    slotRun sel thr itv count s (i :: is) = slotRun sel thr itv (count + 1) (slotStep sel thr itv count s i) is :=
  rfl

/-- what a reset step stores: the candidate iff the step refreshes and the reported error passes the gate -/
theorem slotStepReset_precond {π : Type} (thr : XF) (hthr : thr.isNaN = false) (itv : Nat) (rf : Option Nat)
    (zero : π → π) (count : Nat) (root : WarmRoot π) (s : Slot π) :
    (slotStepReset select thr itv rf zero count root s).precond =
      if performStep itv count && (!(root count (warmStart rf zero count s.precond)).err.isNaN &&
          (root count (warmStart rf zero count s.precond)).err.lt thr)
      then (root count (warmStart rf zero count s.precond)).cand else s.precond := by
  rw [slotStepReset, slotStep_eq (fun _ _ _ _ => rfl)]
  cases performStep itv count
  · rw [if_neg Bool.false_ne_true, Bool.false_and, if_neg Bool.false_ne_true]
    exact select_self hthr _ _
  · rw [if_pos rfl, Bool.true_and]
    exact select_eq_ite hthr _ _

theorem slotRunReset_succ {π : Type} (sel : Selector π) (thr : XF) (itv : Nat) (rf : Option Nat) (zero : π → π)
    (root : WarmRoot π) (count : Nat) (s : Slot π) (n : Nat) :
    slotRunReset sel thr itv rf zero root count s (n + 1) =
      slotRunReset sel thr itv rf zero root (count + 1) (slotStepReset sel thr itv rf zero count root s) n := rfl

/-- a periodically reset warm start is a warm start: the reset only changes what the root is handed -/
theorem slotRunReset_eq_slotRunDep {π : Type} (sel : Selector π) (thr : XF) (itv : Nat) (rf : Option Nat) (zero : π → π)
    (root : WarmRoot π) :
    ∀ (n count : Nat) (s : Slot π),
      slotRunReset sel thr itv rf zero root count s n
        = slotRunDep sel thr itv (fun c p => root c (warmStart rf zero c p)) count s n
  | 0, _, _ => rfl
  | n + 1, count, s =>
    slotRunReset_eq_slotRunDep sel thr itv rf zero root n (count + 1)
      (slotStepReset sel thr itv rf zero count root s)

end PrecondVerif.Gate
