/-
Lemmas for the pytree / state-dict model (`Model/PyTree.lean`), property C14.  The round trip is `restore_general`:
restoring the state dict of `s` into a template `t` with the keys of `s` gives `withStaticOf t s`, which is `s` when
the skeletons agree (`restore_same`); the resume theorems are that plus `run_append` and `run_invariant`.
Imports nothing from Mathlib; `Std.Data.String.ToNat` supplies `Nat.repr_injective`
(list keys `str(i)` are pairwise distinct, `C14.list_keys_distinct`).
-/
import PrecondVerif.Model.PyTree
import Std.Data.String.ToNat
import PrecondVerif.Lemmas.Basic.ExceptKit

namespace PrecondVerif.Ser
variable {α β σ : Type}

theorem keys_toStateDicts (cs : List (String × PyTree α σ)) :
    (toStateDicts cs).map Prod.fst = cs.map Prod.fst := by
  induction cs with
  | nil => rfl
  | cons p rest ih => obtain ⟨k, t⟩ := p; simp [toStateDicts, ih]

theorem keys_keyShapes (cs : List (String × PyTree α σ)) :
    (keyShapes cs).map Prod.fst = cs.map Prod.fst := by
  induction cs with
  | nil => rfl
  | cons p rest ih => obtain ⟨k, t⟩ := p; simp [keyShapes, ih]

theorem lookup_toStateDicts (cs : List (String × PyTree α σ)) (h : nodupKeys (cs.map Prod.fst) = true)
    (k : String) (s : PyTree α σ) (hm : (k, s) ∈ cs) :
    (toStateDicts cs).lookup k = some (toStateDict s) := by
  induction cs with
  | nil => cases hm
  | cons p rest ih =>
    obtain ⟨k0, t0⟩ := p
    simp only [List.map_cons, nodupKeys, Bool.and_eq_true, Bool.not_eq_true', List.contains_eq_mem,
      decide_eq_false_iff_not] at h
    rcases List.mem_cons.1 hm with heq | hin
    · cases heq
      simp [toStateDicts]
    · have hk : k ∈ rest.map Prod.fst := List.mem_map.2 ⟨(k, s), hin, rfl⟩
      have hne : k ≠ k0 := fun e => h.1 (e ▸ hk)
      have : (k == k0) = false := by simpa using hne
      simp [toStateDicts, List.lookup, this, ih h.2 hin]

theorem firstNotIn_self (l : List String) : firstNotIn l l = Option.none := by
  simp [firstNotIn]

theorem checkKeys_self (kind : Kind σ) (l : List String) : checkKeys kind l l = .ok () := by
  cases kind <;> simp [checkKeys, subKeys, firstNotIn_self]

theorem checkUnknown_self (kind : Kind σ) (l : List String) : checkUnknown kind l l = .ok () := by
  cases kind <;> simp [checkUnknown, firstNotIn_self]

theorem nodupKeys_iff (l : List String) : nodupKeys l = true ↔ l.Nodup := by
  induction l with
  | nil => simp [nodupKeys]
  | cons a l ih => simp [nodupKeys, ih, List.nodup_cons]

mutual
theorem restore_general : ∀ (t s : PyTree α σ), wf s = true → keyShape t = keyShape s →
    fromStateDict t (toStateDict s) = .ok (withStaticOf t s)
  | .leaf _, s, _, h | .none, s, _, h => by
    cases s <;> simp [keyShape] at h <;> simp [toStateDict, fromStateDict, StateDict.asTree, withStaticOf]
  | .node _ _, .leaf _, _, h | .node _ _, .none, _, h => by simp [keyShape] at h
  | .node k ct, .node k' cs, hw, h => by
    simp only [keyShape, PyTree.node.injEq] at h
    simp only [wf, Bool.and_eq_true] at hw
    have hkeys : ct.map Prod.fst = cs.map Prod.fst := by
      rw [← keys_keyShapes ct, ← keys_keyShapes cs, h.2]
    have hc := restore_children ct cs (toStateDicts cs) hw.2 h.2
      (fun k s hm => lookup_toStateDicts cs hw.1 k s hm)
    simp only [toStateDict, fromStateDict, keys_toStateDicts, hkeys, checkKeys_self, checkUnknown_self, hc,
      withStaticOf, ok_bind, pure_eq_ok]
theorem restore_children : ∀ (ct cs : List (String × PyTree α σ)) (kvs : List (String × StateDict α)),
    wfs cs = true → keyShapes ct = keyShapes cs →
    (∀ k s, (k, s) ∈ cs → kvs.lookup k = some (toStateDict s)) →
    restoreChildren ct kvs = .ok (withStaticOfs ct cs)
  | [], [], _, _, _, _ => by simp [restoreChildren, withStaticOfs]
  | [], _ :: _, _, _, h, _ => by simp [keyShapes] at h
  | _ :: _, [], _, _, h, _ => by simp [keyShapes] at h
  | (k, t) :: ct, (k', s) :: cs, kvs, hw, h, hl => by
    simp only [keyShapes, List.cons.injEq, Prod.mk.injEq] at h
    simp only [wfs, Bool.and_eq_true] at hw
    obtain ⟨⟨hk, hts⟩, hrest⟩ := h
    subst hk
    have h1 := hl k s (List.mem_cons_self)
    have h2 := restore_general t s hw.1 hts
    have h3 := restore_children ct cs kvs hw.2 hrest (fun k s hm => hl k s (List.mem_cons_of_mem _ hm))
    simp only [restoreChildren, h1, h2, h3, withStaticOfs, ok_bind, pure_eq_ok]
end

mutual
theorem withStaticOf_same : ∀ (t s : PyTree α σ), skeleton t = skeleton s → withStaticOf t s = s
  | .leaf _, s, _ => by cases s <;> simp [withStaticOf]
  | .none, s, _ => by cases s <;> simp [withStaticOf]
  | .node _ _, .leaf _, _ => by simp [withStaticOf]
  | .node _ _, .none, _ => by simp [withStaticOf]
  | .node k ct, .node k' cs, h => by
    simp only [skeleton, PyTree.node.injEq] at h
    simp [withStaticOf, h.1, withStaticOfs_same ct cs h.2]
theorem withStaticOfs_same : ∀ (ct cs : List (String × PyTree α σ)), skeletons ct = skeletons cs →
    withStaticOfs ct cs = cs
  | [], cs, _ => by cases cs <;> simp [withStaticOfs]
  | _ :: _, [], _ => by simp [withStaticOfs]
  | (k, t) :: ct, (k', s) :: cs, h => by
    simp only [skeletons, List.cons.injEq, Prod.mk.injEq] at h
    simp [withStaticOfs, withStaticOf_same t s h.1.2, withStaticOfs_same ct cs h.2]
end

mutual
theorem keyShape_skeleton : ∀ (t : PyTree α σ), keyShape (skeleton t) = keyShape t
  | .leaf _ => by simp [skeleton, keyShape]
  | .none => by simp [skeleton, keyShape]
  | .node k cs => by simp [skeleton, keyShape, keyShapes_skeletons cs]
theorem keyShapes_skeletons : ∀ (cs : List (String × PyTree α σ)), keyShapes (skeletons cs) = keyShapes cs
  | [] => by simp [skeletons, keyShapes]
  | (k, t) :: cs => by simp [skeletons, keyShapes, keyShape_skeleton t, keyShapes_skeletons cs]
end

theorem restore_same (t s : PyTree α σ) (hw : wf s = true) (h : skeleton t = skeleton s) :
    fromStateDict t (toStateDict s) = .ok s := by
  have hk : keyShape t = keyShape s := by rw [← keyShape_skeleton t, ← keyShape_skeleton s, h]
  rw [restore_general t s hw hk, withStaticOf_same t s h]

theorem keys_skeletons (cs : List (String × PyTree α σ)) :
    (skeletons cs).map Prod.fst = cs.map Prod.fst := by
  induction cs with
  | nil => rfl
  | cons p rest ih => obtain ⟨k, t⟩ := p; simp [skeletons, ih]

mutual
theorem wf_skeleton : ∀ (t : PyTree α σ), wf (skeleton t) = wf t
  | .leaf _ => by simp [skeleton, wf]
  | .none => by simp [skeleton, wf]
  | .node k cs => by simp [skeleton, wf, keys_skeletons, wfs_skeletons cs]
theorem wfs_skeletons : ∀ (cs : List (String × PyTree α σ)), wfs (skeletons cs) = wfs cs
  | [] => by simp [skeletons, wfs]
  | (k, t) :: cs => by simp [skeletons, wfs, wf_skeleton t, wfs_skeletons cs]
end

theorem wf_eq_of_skeleton_eq (t s : PyTree α σ) (h : skeleton t = skeleton s) : wf t = wf s := by
  rw [← wf_skeleton t, ← wf_skeleton s, h]

mutual
theorem skeleton_withStaticOf : ∀ (t s : PyTree α σ), keyShape t = keyShape s →
    skeleton (withStaticOf t s) = skeleton t
  | .leaf _, s, h | .none, s, h => by
    cases s <;> simp [keyShape] at h <;> simp [withStaticOf, skeleton]
  | .node _ _, .leaf _, h | .node _ _, .none, h => by simp [keyShape] at h
  | .node k ct, .node k' cs, h => by
    simp only [keyShape, PyTree.node.injEq] at h
    simp [withStaticOf, skeleton, skeletons_withStaticOfs ct cs h.2]
theorem skeletons_withStaticOfs : ∀ (ct cs : List (String × PyTree α σ)), keyShapes ct = keyShapes cs →
    skeletons (withStaticOfs ct cs) = skeletons ct
  | [], [], _ => by simp [withStaticOfs, skeletons]
  | [], _ :: _, h => by simp [keyShapes] at h
  | _ :: _, [], h => by simp [keyShapes] at h
  | (k, t) :: ct, (k', s) :: cs, h => by
    simp only [keyShapes, List.cons.injEq, Prod.mk.injEq] at h
    simp [withStaticOfs, skeletons, h.1.1, skeleton_withStaticOf t s h.1.2, skeletons_withStaticOfs ct cs h.2]
end

mutual
theorem leaves_withStaticOf : ∀ (t s : PyTree α σ), leaves (withStaticOf t s) = leaves s
  | .leaf _, s => by cases s <;> simp [withStaticOf]
  | .none, s => by cases s <;> simp [withStaticOf]
  | .node _ _, .leaf _ => by simp [withStaticOf]
  | .node _ _, .none => by simp [withStaticOf]
  | .node k ct, .node k' cs => by simp [withStaticOf, leaves, leavesL_withStaticOfs ct cs]
theorem leavesL_withStaticOfs : ∀ (ct cs : List (String × PyTree α σ)), leavesL (withStaticOfs ct cs) = leavesL cs
  | [], cs => by cases cs <;> simp [withStaticOfs]
  | _ :: _, [] => by simp [withStaticOfs]
  | (k, t) :: ct, (k', s) :: cs => by
    simp [withStaticOfs, leavesL, leaves_withStaticOf t s, leavesL_withStaticOfs ct cs]
end

mutual
theorem toStateDict_withStaticOf : ∀ (t s : PyTree α σ), toStateDict (withStaticOf t s) = toStateDict s
  | .leaf _, s => by cases s <;> simp [withStaticOf]
  | .none, s => by cases s <;> simp [withStaticOf]
  | .node _ _, .leaf _ => by simp [withStaticOf]
  | .node _ _, .none => by simp [withStaticOf]
  | .node k ct, .node k' cs => by simp [withStaticOf, toStateDict, toStateDicts_withStaticOfs ct cs]
theorem toStateDicts_withStaticOfs : ∀ (ct cs : List (String × PyTree α σ)),
    toStateDicts (withStaticOfs ct cs) = toStateDicts cs
  | [], cs => by cases cs <;> simp [withStaticOfs]
  | _ :: _, [] => by simp [withStaticOfs]
  | (k, t) :: ct, (k', s) :: cs => by
    simp [withStaticOfs, toStateDicts, toStateDict_withStaticOf t s, toStateDicts_withStaticOfs ct cs]
end

mutual
theorem skeleton_mapLeaves (f : α → β) : ∀ (t : PyTree α σ), skeleton (mapLeaves f t) = skeleton t
  | .leaf _ => by simp [mapLeaves, skeleton]
  | .none => by simp [mapLeaves, skeleton]
  | .node k cs => by simp [mapLeaves, skeleton, skeletons_mapLeavesL f cs]
theorem skeletons_mapLeavesL (f : α → β) : ∀ (cs : List (String × PyTree α σ)),
    skeletons (mapLeavesL f cs) = skeletons cs
  | [] => by simp [mapLeavesL, skeletons]
  | (k, t) :: cs => by simp [mapLeavesL, skeletons, skeleton_mapLeaves f t, skeletons_mapLeavesL f cs]
end

section loops
variable {S G U : Type}

theorem run_append (step : S → G → U × S) (s : S) (gs₁ gs₂ : List G) :
    run step s (gs₁ ++ gs₂) =
      ((run step s gs₁).1 ++ (run step (run step s gs₁).2 gs₂).1, (run step (run step s gs₁).2 gs₂).2) := by
  induction gs₁ generalizing s with
  | nil => simp [run]
  | cons g gs ih => simp [run, ih]

theorem run_invariant (step : S → G → U × S) (P : S → Prop) (hstep : ∀ s g, P s → P (step s g).2)
    (s : S) (gs : List G) (h : P s) : P (run step s gs).2 := by
  induction gs generalizing s with
  | nil => simpa [run] using h
  | cons g gs ih => simpa [run] using ih _ (hstep s g h)

end loops

section
variable {G U : Type}

theorem resume_ok_inv (step : PyTree α σ → G → U × PyTree α σ) (P : PyTree α σ → Prop)
    (tmpl s0 : PyTree α σ) (hP0 : P s0) (hPstep : ∀ s g, P s → P (step s g).2)
    (hPskel : ∀ s, P s → skeleton s = skeleton s0)
    (hwf : wf s0 = true) (hsame : skeleton tmpl = skeleton s0)
    (gs : List G) (k : Nat) :
    resume step tmpl s0 gs k = .ok (run step s0 gs) := by
  have hinv : skeleton (run step s0 (gs.take k)).2 = skeleton s0 :=
    hPskel _ (run_invariant step P hPstep s0 _ hP0)
  have hw : wf (run step s0 (gs.take k)).2 = true := by rw [wf_eq_of_skeleton_eq _ _ hinv]; exact hwf
  have hr := restore_same tmpl _ hw (hsame.trans hinv.symm)
  have happ := run_append step s0 (gs.take k) (gs.drop k)
  rw [List.take_append_drop] at happ
  simp only [resume, hr, happ]

theorem resume_ok (step : PyTree α σ → G → U × PyTree α σ)
    (hpres : ∀ s g, skeleton (step s g).2 = skeleton s)
    (tmpl s0 : PyTree α σ) (hwf : wf s0 = true) (hsame : skeleton tmpl = skeleton s0)
    (gs : List G) (k : Nat) :
    resume step tmpl s0 gs k = .ok (run step s0 gs) :=
  resume_ok_inv step (fun s => skeleton s = skeleton s0) tmpl s0 rfl (fun s g h => (hpres s g).trans h)
    (fun _ h => h) hwf hsame gs k

/-- `resume_ok_inv` at the invariant "the layout of the state is the fixed point `L` of the layout step";
`skel` is the tree shape that layout `L` denotes. -/
theorem resume_of_layout_fixpoint {Lay E : Type} (layoutOf : PyTree α σ → Lay)
    (lstep : Lay → Except E Lay) (L : Lay) (hfix : lstep L = .ok L) (skel : PyTree Unit σ)
    (hskel : ∀ s, layoutOf s = L → skeleton s = skel)
    (step : PyTree α σ → G → U × PyTree α σ)
    (hstep : ∀ s g, layoutOf s = L → lstep (layoutOf s) = .ok (layoutOf (step s g).2))
    (tmpl s0 : PyTree α σ) (h0 : layoutOf s0 = L) (ht : layoutOf tmpl = L) (hwf : wf s0 = true)
    (gs : List G) (k : Nat) :
    resume step tmpl s0 gs k = .ok (run step s0 gs) := by
  refine resume_ok_inv step (fun s => layoutOf s = L) tmpl s0 h0 ?_ ?_ hwf ?_ gs k
  · intro s g hs
    have := hstep s g hs
    rw [hs, hfix] at this
    exact (Except.ok.inj this).symm
  · intro s hs; rw [hskel s hs, hskel s0 h0]
  · rw [hskel tmpl ht, hskel s0 h0]
end

end PrecondVerif.Ser
