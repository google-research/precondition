/-
Lemmas for the block partitioner (C06): concatenating the pieces of a split along one axis gives the tensor back
(`concat_eqv_of_split`), hence `mergePartitions ∘ partition = id` up to `Tensor.Eqv` (`mergePartitions_of_eqv`); the converse
round trip is in `PartitionIdx.lean`. First `Tensor.Eqv` and the `Forall₂` facts about it.
-/
import PrecondVerif.Lemmas.Shapes
import Mathlib.Data.List.Nodup

namespace PrecondVerif.Shapes

/-- extensional equality of tensors on in-bounds indices -/
def Tensor.Eqv {α} (t u : Tensor α) : Prop :=
  t.shape = u.shape ∧ ∀ idx, inBounds t.shape idx → t.get idx = u.get idx

theorem Tensor.Eqv.refl {α} (t : Tensor α) : t.Eqv t := ⟨rfl, fun _ _ => rfl⟩

theorem Tensor.Eqv.symm {α} {t u : Tensor α} (h : t.Eqv u) : u.Eqv t :=
  ⟨h.1.symm, fun idx hi => (h.2 idx (h.1 ▸ hi)).symm⟩

theorem Tensor.Eqv.trans {α} {t u v : Tensor α} (h1 : t.Eqv u) (h2 : u.Eqv v) : t.Eqv v :=
  ⟨h1.1.trans h2.1, fun idx hi => (h1.2 idx hi).trans (h2.2 idx (h1.1 ▸ hi))⟩

theorem forall₂_eqv_refl {α} (l : List (Tensor α)) : List.Forall₂ Tensor.Eqv l l :=
  List.forall₂_same.mpr fun x _ => Tensor.Eqv.refl x

theorem forall₂_eqv_symm {α} {l1 l2 : List (Tensor α)} (h : List.Forall₂ Tensor.Eqv l1 l2) :
    List.Forall₂ Tensor.Eqv l2 l1 :=
  (h.imp fun _ _ => Tensor.Eqv.symm).flip

theorem forall₂_eqv_trans {α} {l1 l2 l3 : List (Tensor α)} (h1 : List.Forall₂ Tensor.Eqv l1 l2)
    (h2 : List.Forall₂ Tensor.Eqv l2 l3) : List.Forall₂ Tensor.Eqv l1 l3 := by
  induction h1 generalizing l3 with
  | nil => cases h2; exact .nil
  | cons h _ ih =>
    cases h2 with
    | cons h' t' => exact .cons (h.trans h') (ih t')

theorem map_eq_of_forall₂ {β γ : Type} {R : β → β → Prop} (f : β → γ) (hf : ∀ x y, R x y → f x = f y) :
    ∀ {l1 l2 : List β}, List.Forall₂ R l1 l2 → l1.map f = l2.map f
  | _, _, .nil => rfl
  | _, _, .cons h t => by simp [hf _ _ h, map_eq_of_forall₂ f hf t]

theorem getD_of_forall₂ {β : Type} {R : β → β → Prop} (d : β) (hd : R d d) :
    ∀ {l1 l2 : List β}, List.Forall₂ R l1 l2 → ∀ k, R (l1.getD k d) (l2.getD k d)
  | _, _, .nil, k => by simpa using hd
  | _, _, .cons h t, 0 => by simpa using h
  | _, _, .cons h t, k + 1 => by simpa using getD_of_forall₂ d hd t k

theorem offsets_length (sizes : List Nat) (o : Nat) : (offsets sizes o).length = sizes.length := by
  induction sizes generalizing o with
  | nil => rfl
  | cons s ss ih => simp [offsets, ih]

theorem offsets_getD_shift : ∀ (ss : List Nat) (o k : Nat), k < ss.length →
    (offsets ss o).getD k 0 = o + (offsets ss 0).getD k 0
  | [], _, _, h => by simp at h
  | s :: ss, o, 0, _ => by simp [offsets]
  | s :: ss, o, k + 1, h => by
    simp only [offsets, List.getD_cons_succ, Nat.zero_add]
    have hk : k < ss.length := by simpa using h
    rw [offsets_getD_shift ss (o + s) k hk, offsets_getD_shift ss s k hk]
    omega

theorem locate_spec (sizes : List Nat) (i : Nat) (h : i < sizes.sum) :
    (locate sizes i).1 < sizes.length ∧
    (locate sizes i).2 < sizes.getD (locate sizes i).1 0 ∧
    (offsets sizes 0).getD (locate sizes i).1 0 + (locate sizes i).2 = i := by
  fun_induction locate sizes i with
  | case1 i => simp at h
  | case2 s ss i hlt => simp [offsets, hlt]
  | case3 s ss i hge k j hkj ih =>
    rw [hkj] at ih
    rw [List.sum_cons] at h
    obtain ⟨h1, h2, h3⟩ := ih (by omega)
    dsimp only at h1 h2 h3
    refine ⟨Nat.succ_lt_succ h1, by simpa using h2, ?_⟩
    simp only [offsets, List.getD_cons_succ, Nat.zero_add]
    rw [offsets_getD_shift ss s k h1]
    omega

theorem locate_offsets : ∀ (sizes : List Nat) (k j : Nat), k < sizes.length → j < sizes.getD k 0 →
    locate sizes ((offsets sizes 0).getD k 0 + j) = (k, j) ∧ (offsets sizes 0).getD k 0 + j < sizes.sum
  | [], _, _, h, _ => by simp at h
  | s :: ss, 0, j, _, hj => by
    have : j < s := by simpa using hj
    simp [locate, offsets, this]; omega
  | s :: ss, k + 1, j, h, hj => by
    have hk : k < ss.length := by simpa using h
    obtain ⟨ih1, ih2⟩ := locate_offsets ss k j hk (by simpa using hj)
    simp only [offsets, List.getD_cons_succ, Nat.zero_add, List.sum_cons, offsets_getD_shift ss s k hk]
    refine ⟨?_, by omega⟩
    unfold locate
    rw [if_neg (by omega), show s + (offsets ss 0).getD k 0 + j - s = (offsets ss 0).getD k 0 + j by omega, ih1]

theorem slice_get_set {α} (u : Tensor α) (a off s j : Nat) (idx : List Nat) (h : a < idx.length) :
    (u.slice a off s).get (idx.set a j) = u.get (idx.set a (j + off)) := by
  simp [Tensor.slice, List.getD_eq_getElem?_getD, h]

theorem slice_shape_getD {α} (u : Tensor α) (a c off size : Nat) (hc : c ≠ a) :
    (u.slice a off size).shape.getD c 0 = u.shape.getD c 0 := by
  simp [Tensor.slice, List.getD_eq_getElem?_getD, Ne.symm hc]

theorem split_length {α} (t : Tensor α) (a : Nat) (sizes : List Nat) :
    (t.split a sizes).length = sizes.length := by
  simp [Tensor.split, offsets_length]

theorem split_getD {α} [Inhabited α] (t : Tensor α) (a : Nat) (sizes : List Nat) (k : Nat)
    (hk : k < sizes.length) :
    (t.split a sizes).getD k ⟨[], fun _ => default⟩ =
      t.slice a ((offsets sizes 0).getD k 0) (sizes.getD k 0) := by
  have hk' : k < (offsets sizes 0).length := by rw [offsets_length]; exact hk
  have hz : k < ((offsets sizes 0).zip sizes).length := by simp [offsets_length, hk]
  simp [Tensor.split, List.getD_eq_getElem?_getD, List.getElem?_map,
    List.getElem?_eq_getElem hz, hk, hk']

theorem split_shapes {α} (t : Tensor α) (a : Nat) (sizes : List Nat) (ha : a < t.shape.length) :
    (t.split a sizes).map (fun u => u.shape.getD a 0) = sizes := by
  apply List.ext_getElem
  · simp [split_length]
  · intro i h1 h2
    simp [Tensor.split, Tensor.slice, ha]

theorem mem_flatMap_split {α} {ts : List (Tensor α)} {v : Tensor α} {a : Nat} {sizes : List Nat}
    (h : v ∈ ts.flatMap fun u => u.split a sizes) : ∃ u ∈ ts, ∃ off size, v = u.slice a off size := by
  obtain ⟨u, hu, hvu⟩ := List.mem_flatMap.mp h
  obtain ⟨⟨o, s⟩, _, rfl⟩ := List.mem_map.mp hvu
  exact ⟨u, hu, o, s, rfl⟩

/-- `concat` reads entry `idx` from the piece `locate sizes idx_a` at the local index; `locate_spec` says (offset of that
piece) + (local index) = `idx_a`, and that piece of `split` is the slice at this offset -/
theorem concat_eqv_of_split {α} [Inhabited α] (u : Tensor α) (a : Nat) (sizes : List Nat)
    (grp : List (Tensor α)) (ha : a < u.shape.length) (hne : sizes ≠ [])
    (hsum : sizes.sum = u.shape.getD a 0)
    (h : List.Forall₂ Tensor.Eqv grp (u.split a sizes)) :
    (Tensor.concat grp a).Eqv u := by
  have hshapes : grp.map (fun v => v.shape.getD a 0) = sizes :=
    (map_eq_of_forall₂ _ (fun x y hxy => by rw [hxy.1]) h).trans (split_shapes u a sizes ha)
  have hhead : (grp.headD ⟨[], fun _ => default⟩).shape.set a (u.shape.getD a 0) = u.shape := by
    have := (getD_of_forall₂ ⟨[], fun _ => default⟩ (Tensor.Eqv.refl _) h 0).1
    rw [List.getD_eq_getElem?_getD, ← List.head?_eq_getElem?, ← List.headD_eq_head?_getD] at this
    rw [this, split_getD u a sizes 0 (List.length_pos_iff.mpr hne)]
    simp only [Tensor.slice, List.set_set, set_getD_self]
  have hshape : (Tensor.concat grp a).shape = u.shape := by
    simp only [Tensor.concat, hshapes, ← List.sum_eq_foldl_nat, hsum, hhead]
  refine ⟨hshape, fun idx hidx => ?_⟩
  rw [hshape] at hidx
  obtain ⟨h1, h2, h3⟩ := locate_spec sizes (idx.getD a 0) (hsum ▸ inBounds_getD hidx a ha)
  have hE := getD_of_forall₂ ⟨[], fun _ => default⟩ (Tensor.Eqv.refl _) h (locate sizes (idx.getD a 0)).1
  rw [split_getD u a sizes _ h1] at hE
  have hin : inBounds (grp.getD (locate sizes (idx.getD a 0)).1 ⟨[], fun _ => default⟩).shape
      (idx.set a (locate sizes (idx.getD a 0)).2) := by
    rw [hE.1]; exact inBounds_set hidx a _ _ h2
  simp only [Tensor.concat, hshapes]
  rw [hE.2 _ hin, slice_get_set _ _ _ _ _ _ (by rw [inBounds_length hidx]; exact ha), Nat.add_comm, h3,
    set_getD_self]

/-- `partition` with the axes list and the per-axis sizes made explicit -/
def partAxes {α} (sz : Nat → List Nat) (axes : List Nat) (ts : List (Tensor α)) :
    List (Tensor α) :=
  axes.foldl (fun ts i => ts.flatMap fun u => u.split i (sz i)) ts

/-- one iteration of the `for i in reversed(self._splits)` loop of `merge_partitions`: chunk the list by the number of
pieces of axis `i` and concatenate each chunk along `i` -/
def mergeStep {α} [Inhabited α] (sz : Nat → List Nat) (i : Nat) (ps : List (Tensor α)) :
    List (Tensor α) :=
  (chunks (sz i).length ps).map fun grp => Tensor.concat grp i

/-- the whole `for i in reversed(self._splits)` loop -/
def mergeAxesRev {α} [Inhabited α] (sz : Nat → List Nat) (axes : List Nat)
    (ps : List (Tensor α)) : List (Tensor α) :=
  axes.reverse.foldl (fun ps i => mergeStep sz i ps) ps

theorem partition_eq_partAxes {α} (t : Tensor α) (b : Nat) :
    partition t b = partAxes (fun i => splitSizes (t.shape.getD i 0) b) (splitAxes t.shape b) [t] :=
  rfl

theorem mergePartitions_eq {α} [Inhabited α] (shape : List Nat) (b : Nat) (parts : List (Tensor α)) :
    mergePartitions shape b parts =
      match mergeAxesRev (fun i => splitSizes (shape.getD i 0) b) (splitAxes shape b) parts with
      | [t] => some t
      | _ => none := rfl

theorem partAxes_cons {α} (sz : Nat → List Nat) (a : Nat) (rest : List Nat) (ts : List (Tensor α)) :
    partAxes sz (a :: rest) ts = partAxes sz rest (ts.flatMap fun u => u.split a (sz a)) := rfl

theorem mergeAxesRev_cons {α} [Inhabited α] (sz : Nat → List Nat) (a : Nat) (rest : List Nat)
    (ps : List (Tensor α)) :
    mergeAxesRev sz (a :: rest) ps = mergeStep sz a (mergeAxesRev sz rest ps) := by
  simp [mergeAxesRev, List.foldl_append]

theorem partAxes_length {α} (sz : Nat → List Nat) (axes : List Nat) (ts : List (Tensor α)) :
    (partAxes sz axes ts).length = ts.length * prod (axes.map fun i => (sz i).length) := by
  induction axes generalizing ts with
  | nil => simp [partAxes]
  | cons a rest ih =>
    rw [partAxes_cons, ih, flatMap_length_const _ (sz a).length ts fun u _ => split_length u a (sz a)]
    simp [Nat.mul_assoc]

theorem splitAxes_nodup (shape : List Nat) (b : Nat) : (splitAxes shape b).Nodup :=
  List.Nodup.filter _ List.nodup_range

theorem splitAxes_lt (shape : List Nat) (b : Nat) : ∀ a ∈ splitAxes shape b, a < shape.length := by
  intro a ha
  simp only [splitAxes, List.mem_filter, List.mem_range] at ha
  exact ha.1

theorem splitSizes_ne_nil (d b : Nat) : splitSizes d b ≠ [] :=
  List.ne_nil_of_length_pos (by rw [splitSizes_length]; split <;> exact Nat.succ_pos _)

theorem chunks_append {α} (n : Nat) (l1 l2 : List α) (hn : 0 < n) (h1 : l1.length = n) :
    chunks n (l1 ++ l2) = l1 :: chunks n l2 := by
  rw [chunks]
  have hne : ¬ (n = 0 ∨ l1 ++ l2 = []) :=
    not_or.mpr ⟨Nat.pos_iff_ne_zero.mp hn, List.ne_nil_of_length_pos (by rw [List.length_append, h1]; omega)⟩
  rw [dif_neg hne]
  simp [← h1]

theorem chunks_nil {α} (n : Nat) : chunks n ([] : List α) = [] := by
  rw [chunks]; simp

/-- one merge step undoes one split step: the chunks of `R` are the groups of pieces of the tensors `us`, and each group
concatenates back (`concat_eqv_of_split`) -/
theorem mergeStep_flatMap_split {α} [Inhabited α] (sz : Nat → List Nat) (a : Nat)
    (us R : List (Tensor α))
    (hne : sz a ≠ [])
    (hus : ∀ u ∈ us, a < u.shape.length ∧ (sz a).sum = u.shape.getD a 0)
    (h : List.Forall₂ Tensor.Eqv R (us.flatMap fun u => u.split a (sz a))) :
    List.Forall₂ Tensor.Eqv (mergeStep sz a R) us := by
  have hn : 0 < (sz a).length := List.length_pos_iff.mpr hne
  induction us generalizing R with
  | nil =>
    simp only [List.flatMap_nil, List.forall₂_nil_right_iff] at h
    subst h
    simp [mergeStep, chunks_nil]
  | cons u us ih =>
    simp only [List.flatMap_cons] at h
    have h1 := List.forall₂_take_append R _ _ h
    have h2 := List.forall₂_drop_append R _ _ h
    have hsl : (u.split a (sz a)).length = (sz a).length := split_length u a (sz a)
    rw [hsl] at h1 h2
    have hR : R = R.take (sz a).length ++ R.drop (sz a).length := (List.take_append_drop _ _).symm
    have htl : (R.take (sz a).length).length = (sz a).length := by
      rw [h1.length_eq, hsl]
    unfold mergeStep
    rw [hR, chunks_append _ _ _ hn htl]
    simp only [List.map_cons]
    refine List.Forall₂.cons ?_ ?_
    · exact concat_eqv_of_split u a (sz a) _ (hus u (by simp)).1 hne (hus u (by simp)).2 h1
    · exact ih _ (fun v hv => hus v (by simp [hv])) h2

/-- the merge loop undoes the partition loop: induction over the axes, the last axis split is the first merged; a slice
along one axis keeps what the hypotheses say about the other axes -/
theorem mergeAxesRev_of_eqv {α} [Inhabited α] (sz : Nat → List Nat) : ∀ (axes : List Nat)
    (us R : List (Tensor α)), axes.Nodup → (∀ a ∈ axes, sz a ≠ []) →
    (∀ u ∈ us, ∀ a ∈ axes, a < u.shape.length ∧ (sz a).sum = u.shape.getD a 0) →
    List.Forall₂ Tensor.Eqv R (partAxes sz axes us) →
    List.Forall₂ Tensor.Eqv (mergeAxesRev sz axes R) us
  | [], us, R, _, _, _, h => by simpa [mergeAxesRev, partAxes] using h
  | a :: rest, us, R, hnd, hne, hus, h => by
    rw [partAxes_cons] at h
    rw [mergeAxesRev_cons]
    have hnd' := List.nodup_cons.mp hnd
    apply mergeStep_flatMap_split sz a us _ (hne a (by simp)) (fun u hu => hus u hu a (by simp))
    apply mergeAxesRev_of_eqv sz rest _ R hnd'.2 (fun c hc => hne c (by simp [hc])) _ h
    intro v hv c hc
    obtain ⟨u, hu, off, size, rfl⟩ := mem_flatMap_split hv
    have hca : c ≠ a := fun e => hnd'.1 (e ▸ hc)
    have := hus u hu c (by simp [hc])
    refine ⟨by simpa [Tensor.slice] using this.1, ?_⟩
    rw [slice_shape_getD u a c off size hca]; exact this.2

theorem mergePartitions_of_eqv {α} [Inhabited α] (t : Tensor α) (b : Nat) (parts : List (Tensor α))
    (h : List.Forall₂ Tensor.Eqv parts (partition t b)) :
    ∃ u, mergePartitions t.shape b parts = some u ∧ u.Eqv t := by
  have h' := mergeAxesRev_of_eqv (fun i => splitSizes (t.shape.getD i 0) b) (splitAxes t.shape b) [t] parts
    (splitAxes_nodup _ _) (fun a _ => splitSizes_ne_nil _ _)
    (by
      intro u hu a ha
      simp only [List.mem_singleton] at hu
      subst hu
      exact ⟨splitAxes_lt _ _ a ha, splitSizes_sum _ _⟩)
    (by rw [← partition_eq_partAxes]; exact h)
  rw [mergePartitions_eq]
  generalize mergeAxesRev (fun i => splitSizes (t.shape.getD i 0) b) (splitAxes t.shape b) parts = res at h'
  cases h' with
  | cons hab htl =>
    cases htl
    exact ⟨_, rfl, hab⟩

end PrecondVerif.Shapes
