/-
Lemmas for the index-level description of Tearfree `_blockify` / `_deblockify` (C06): where every entry goes, for 0, 1 and 2
large axes. The three layouts with their metadata (`blocks_cases`), the two index maps of `Model/ShapesIdx.lean` on each
layout, `BlockedOK` per layout and `blockedOK` for every accepted shape; what the tensors read is in `Blockify.lean`.
-/
import PrecondVerif.Model.ShapesIdx
import PrecondVerif.Lemmas.Blockify
import Mathlib.Data.List.Nodup

namespace PrecondVerif.Shapes

/-! ### lists of the form `A ++ x :: B` read, set and cut at `A.length`; adding offsets to a zero list -/

theorem set_at_len (A B : List Nat) (x v : Nat) : (A ++ x :: B).set A.length v = A ++ v :: B := by
  simp

theorem getD_at_len_two (A M C : List Nat) (a c : Nat) :
    (A ++ a :: (M ++ c :: C)).getD (A.length + 1 + M.length) 0 = c := by
  rw [show A ++ a :: (M ++ c :: C) = (A ++ a :: M) ++ c :: C by simp,
    show A.length + 1 + M.length = (A ++ a :: M).length by simp; omega, getD_at_len]

theorem set_at_len_two (A M C : List Nat) (a c v : Nat) :
    (A ++ a :: (M ++ c :: C)).set (A.length + 1 + M.length) v = A ++ a :: (M ++ v :: C) := by
  rw [show A ++ a :: (M ++ c :: C) = (A ++ a :: M) ++ c :: C by simp,
    show A.length + 1 + M.length = (A ++ a :: M).length by simp; omega, set_at_len]
  simp

theorem addOff_zeros : ∀ (n : Nat) (l : List Nat), l.length ≤ n → addOff (List.replicate n 0) l = l
  | _, [], _ => by simp [addOff]
  | 0, _ :: _, h => by simp at h
  | n + 1, x :: l, h => by
    rw [List.replicate_succ, addOff_cons, addOff_zeros n l (by simpa using h), Nat.zero_add]

theorem addOff_append (A A' B B' : List Nat) (h : A.length = B.length) :
    addOff (A ++ A') (B ++ B') = addOff A B ++ addOff A' B' := by
  simp [addOff, List.zipWith_append h]

theorem replicate_set (p q v : Nat) :
    (List.replicate (p + 1 + q) 0).set p v = List.replicate p 0 ++ v :: List.replicate q 0 := by
  have e : List.replicate (p + 1 + q) 0 = List.replicate p 0 ++ 0 :: List.replicate q 0 := by
    rw [Nat.add_assoc, List.replicate_add, Nat.add_comm 1 q, List.replicate_succ]
  have h := set_at_len (List.replicate p 0) (List.replicate q 0) 0 v
  rw [List.length_replicate] at h
  rw [e, h]

theorem replicate_set_two (p q s va vc : Nat) :
    ((List.replicate (p + 1 + (q + 1 + s)) 0).set p va).set (p + 1 + q) vc =
      List.replicate p 0 ++ va :: (List.replicate q 0 ++ vc :: List.replicate s 0) := by
  have e : List.replicate (q + 1 + s) 0 = List.replicate q 0 ++ 0 :: List.replicate s 0 := by
    rw [Nat.add_assoc, List.replicate_add, Nat.add_comm 1 s, List.replicate_succ]
  have h := set_at_len_two (List.replicate p 0) (List.replicate q 0) (List.replicate s 0) va 0 vc
  rw [List.length_replicate, List.length_replicate] at h
  rw [replicate_set p (q + 1 + s) va, e, h]

theorem seg_mid (A M C : List Nat) (x y : Nat) :
    ((A ++ x :: (M ++ y :: C)).drop (A.length + 1)).take (A.length + 1 + M.length - A.length - 1) = M := by
  rw [seg_drop]
  have : A.length + 1 + M.length - A.length - 1 = M.length := by omega
  rw [this]; simp

theorem seg_take (a : Nat) (M C : List Nat) (y : Nat) :
    (M ++ y :: C).take (a + 1 + M.length - a - 1) = M := by
  have : a + 1 + M.length - a - 1 = M.length := by omega
  rw [this]; simp

theorem seg_drop2 (A M C : List Nat) (x y : Nat) :
    (A ++ x :: (M ++ y :: C)).drop (A.length + 1 + M.length + 1) = C := by
  rw [show A ++ x :: (M ++ y :: C) = (A ++ x :: M ++ [y]) ++ C by simp, List.drop_left' (by simp; omega)]

/-! ### the three layouts, and `blocksMetadata` on them -/

/-- the metadata of the three layouts Tearfree accepts: no large axis; one large axis `n·b` between small stretches `A`,
`C`; two large axes `lB·b`, `rB·b` with small stretches before, between and after -/
abbrev metaZero (S : List Nat) (b : Nat) : BlocksMeta := ⟨S, 1, b, S, [], [], 0⟩

abbrev metaOne (A C : List Nat) (n b : Nat) : BlocksMeta :=
  ⟨A ++ b :: C, n, b, A ++ (n * b) :: C, [A.length], [n], A.length⟩

abbrev metaTwo (A M C : List Nat) (lB rB b : Nat) : BlocksMeta :=
  ⟨A ++ b :: (M ++ b :: C), lB * rB, b, A ++ (lB * b) :: (M ++ (rB * b) :: C),
    [A.length, A.length + 1 + M.length], [lB, rB], A.length⟩

theorem map_min_of_lt (A : List Nat) (b : Nat) (h : ∀ d ∈ A, d < b) : A.map (min · b) = A :=
  (List.map_congr_left (g := id) fun d hd => Nat.min_eq_left (Nat.le_of_lt (h d hd))).trans (List.map_id A)

theorem largeAxes_mem (b : Nat) (S : List Nat) (k : Nat) :
    k ∈ (blocksMetadata b S).largeAxes ↔ k < S.length ∧ b ≤ S.getD k 0 := by
  simp [blocksMetadata]

theorem largeAxes_append (b : Nat) (A R : List Nat) :
    (blocksMetadata b (A ++ R)).largeAxes =
      (blocksMetadata b A).largeAxes ++ (blocksMetadata b R).largeAxes.map (A.length + ·) := by
  simp only [blocksMetadata]
  rw [List.length_append, List.range_add, List.filter_append, List.filter_map]
  congr 1
  · apply List.filter_congr
    intro i hi
    simp only [List.mem_range] at hi
    simp [List.getD_eq_getElem?_getD, List.getElem?_append_left hi]
  · congr 1
    apply List.filter_congr
    intro i _
    simp [List.getD_eq_getElem?_getD, List.getElem?_append_right]

theorem largeAxes_of_small (b : Nat) (A : List Nat) (h : ∀ d ∈ A, d < b) : (blocksMetadata b A).largeAxes = [] := by
  simp only [blocksMetadata, List.filter_eq_nil_iff, List.mem_range, decide_eq_true_eq, Nat.not_le]
  intro i hi
  rw [List.getD_eq_getElem?_getD, List.getElem?_eq_getElem hi]
  exact h _ (List.getElem_mem hi)

/-- the first large axis comes after the small prefix; the others are those of the rest, shifted -/
theorem largeAxes_prefix (b : Nat) (A : List Nat) (d : Nat) (R : List Nat) (hA : ∀ x ∈ A, x < b) (hd : b ≤ d) :
    (blocksMetadata b (A ++ d :: R)).largeAxes =
      A.length :: (blocksMetadata b R).largeAxes.map (A.length + 1 + ·) := by
  have h1 : (blocksMetadata b [d]).largeAxes = [0] := by simp [blocksMetadata, hd]
  rw [largeAxes_append, largeAxes_of_small b A hA, List.nil_append, ← List.singleton_append, largeAxes_append, h1,
    List.map_append, List.map_map]
  simp only [List.map_cons, List.map_nil, List.length_singleton, Nat.add_zero, List.singleton_append,
    Function.comp_def, Nat.add_assoc]

theorem exists_small_prefix (b : Nat) : ∀ S : List Nat, ∃ A R, S = A ++ R ∧ (∀ d ∈ A, d < b) ∧
    (R = [] ∨ ∃ d R', R = d :: R' ∧ b ≤ d)
  | [] => ⟨[], [], rfl, by simp, Or.inl rfl⟩
  | d :: S => by
    by_cases hd : d < b
    · obtain ⟨A, R, rfl, hA, hR⟩ := exists_small_prefix b S
      exact ⟨d :: A, R, rfl, by simpa [hd] using hA, hR⟩
    · exact ⟨[], d :: S, rfl, by simp, Or.inr ⟨d, S, rfl, Nat.le_of_not_lt hd⟩⟩

theorem blocksMetadata_zero (S : List Nat) (b : Nat) (hS : ∀ d ∈ S, d < b) : blocksMetadata b S = metaZero S b := by
  have hla := largeAxes_of_small b S hS
  simp only [blocksMetadata] at hla ⊢
  rw [hla]
  simp [map_min_of_lt S b hS]

theorem blocksMetadata_one (A C : List Nat) (n b : Nat) (hb : 0 < b) (hA : ∀ d ∈ A, d < b) (hC : ∀ d ∈ C, d < b)
    (hn : 0 < n) : blocksMetadata b (A ++ (n * b) :: C) = metaOne A C n b := by
  have hla : (blocksMetadata b (A ++ (n * b) :: C)).largeAxes = [A.length] := by
    rw [largeAxes_prefix b A (n * b) C hA (Nat.le_mul_of_pos_left b hn), largeAxes_of_small b C hC, List.map_nil]
  simp only [blocksMetadata] at hla ⊢
  rw [hla]
  have hmin : min (n * b) b = b := Nat.min_eq_right (Nat.le_mul_of_pos_left b hn)
  simp only [List.map_cons, List.map_nil, getD_at_len, Nat.mul_div_cancel _ hb, List.map_append,
    map_min_of_lt A b hA, map_min_of_lt C b hC, hmin, prod_cons, prod_nil, Nat.mul_one, List.headD_cons]

theorem blocksMetadata_two (A M C : List Nat) (lB rB b : Nat) (hb : 0 < b) (hA : ∀ d ∈ A, d < b) (hM : ∀ d ∈ M, d < b)
    (hC : ∀ d ∈ C, d < b) (hl : 0 < lB) (hr : 0 < rB) :
    blocksMetadata b (A ++ (lB * b) :: (M ++ (rB * b) :: C)) = metaTwo A M C lB rB b := by
  have hla : (blocksMetadata b (A ++ (lB * b) :: (M ++ (rB * b) :: C))).largeAxes =
      [A.length, A.length + 1 + M.length] := by
    rw [largeAxes_prefix b A _ _ hA (Nat.le_mul_of_pos_left b hl),
      largeAxes_prefix b M _ _ hM (Nat.le_mul_of_pos_left b hr), largeAxes_of_small b C hC, List.map_nil,
      List.map_cons, List.map_nil]
  simp only [blocksMetadata] at hla ⊢
  rw [hla]
  have hminl : min (lB * b) b = b := Nat.min_eq_right (Nat.le_mul_of_pos_left b hl)
  have hminr : min (rB * b) b = b := Nat.min_eq_right (Nat.le_mul_of_pos_left b hr)
  simp only [List.map_cons, List.map_nil, getD_at_len, getD_at_len_two, Nat.mul_div_cancel _ hb, List.map_append,
    map_min_of_lt A b hA, map_min_of_lt M b hM, map_min_of_lt C b hC, hminl, hminr, prod_cons, prod_nil, Nat.mul_one,
    List.headD_cons]

/-- every accepted shape is one of the three layouts, with its metadata computed -/
theorem blocks_cases (S : List Nat) (b : Nat) (hb : 0 < b)
    (hle : (blocksMetadata b S).largeAxes.length ≤ 2)
    (hdiv : ∀ a ∈ (blocksMetadata b S).largeAxes, b ∣ S.getD a 0) :
    blocksMetadata b S = (metaZero S b) ∨
    (∃ A C n, S = A ++ (n * b) :: C ∧
      blocksMetadata b S = metaOne A C n b) ∨
    (∃ A M C lB rB, S = A ++ (lB * b) :: (M ++ (rB * b) :: C) ∧
      blocksMetadata b S = (metaTwo A M C lB rB b)) := by
  -- a large dimension that `b` divides is a positive multiple of `b`
  have hquot : ∀ d, b ≤ d → b ∣ d → ∃ n, d = n * b ∧ 0 < n := fun d hd ⟨n, hn⟩ =>
    ⟨n, by rw [hn, Nat.mul_comm], Nat.pos_of_ne_zero fun h0 => by subst h0; omega⟩
  -- peel off the small prefix up to the first large dimension, three times
  obtain ⟨A, R, rfl, hA, hR⟩ := exists_small_prefix b S
  rcases hR with rfl | ⟨d, R, rfl, hd⟩
  · rw [List.append_nil]
    exact Or.inl (blocksMetadata_zero A b hA)
  obtain ⟨M, R, rfl, hM, hR⟩ := exists_small_prefix b R
  have h1 := largeAxes_prefix b A d (M ++ R) hA hd
  obtain ⟨lB, rfl, hlB⟩ := hquot d hd (by
    have := hdiv A.length (by rw [h1]; exact List.mem_cons_self)
    rwa [getD_at_len] at this)
  rcases hR with rfl | ⟨e, R, rfl, he⟩
  · rw [List.append_nil]
    exact Or.inr (Or.inl ⟨A, M, lB, rfl, blocksMetadata_one A M lB b hb hA hM hlB⟩)
  obtain ⟨C, R, rfl, hC, hR⟩ := exists_small_prefix b R
  rw [largeAxes_prefix b M e (C ++ R) hM he, List.map_cons] at h1
  obtain ⟨rB, rfl, hrB⟩ := hquot e he (by
    have := hdiv (A.length + 1 + M.length) (by rw [h1]; exact List.mem_cons_of_mem _ List.mem_cons_self)
    rwa [getD_at_len_two] at this)
  rcases hR with rfl | ⟨f, R, rfl, hf⟩
  · rw [List.append_nil]
    exact Or.inr (Or.inr ⟨A, M, C, lB, rB, rfl, blocksMetadata_two A M C lB rB b hb hA hM hC hlB hrB⟩)
  · rw [h1, largeAxes_prefix b C f R hC hf] at hle
    simp at hle

/-! ### `unblockedIndex` and `blockedIndex` on the three layouts -/

theorem unblocked_zero (S : List Nat) (b x0 : Nat) (inner : List Nat) (hl : inner.length = S.length) :
    unblockedIndex (metaZero S b) (x0 :: inner) = inner := by
  simp only [unblockedIndex, combineIndex, tfBlockOffsets, popAt, List.zip_nil_left, List.foldl_nil,
    List.take_zero, List.nil_append, List.drop_succ_cons, List.drop_zero]
  exact addOff_zeros _ _ (by omega)

theorem blocked_zero (S : List Nat) (b : Nat) (idx : List Nat) :
    blockedIndex (metaZero S b) idx = 0 :: idx := by
  simp [blockedIndex, innerIndexOf, blockIndexOf, insertAt, ravel]

theorem unblocked_one (A C : List Nat) (n b : Nat) (xa xc : List Nat) (u w : Nat)
    (hl : xa.length = A.length) (hlc : xc.length = C.length) :
    unblockedIndex (metaOne A C n b) (xa ++ u :: w :: xc) =
      xa ++ (u * b + w) :: xc := by
  simp only [unblockedIndex, combineIndex, tfBlockOffsets]
  rw [← hl, getD_at_len, popAt_append_cons]
  simp only [unravel, prod_nil, Nat.div_one, List.zip_cons_cons, List.zip_nil_right, List.foldl_cons,
    List.foldl_nil]
  have e : (A ++ (n * b) :: C).length = xa.length + 1 + xc.length := by simp [hl, hlc]; omega
  rw [e, replicate_set, addOff_append _ _ _ _ (by simp), addOff_cons, addOff_zeros _ _ (Nat.le_refl _),
    addOff_zeros _ _ (Nat.le_refl _)]

theorem blocked_one (A C : List Nat) (n b : Nat) (ip iq : List Nat) (ia : Nat) (hl : ip.length = A.length) :
    blockedIndex (metaOne A C n b) (ip ++ ia :: iq) =
      ip ++ (ia / b) :: (ia % b) :: iq := by
  simp only [blockedIndex, innerIndexOf, blockIndexOf, List.foldl_cons, List.foldl_nil, List.map_cons,
    List.map_nil]
  rw [← hl, getD_at_len, set_at_len, insertAt_append]
  simp [ravel]

theorem unblocked_two (A M C : List Nat) (lB rB b : Nat) (xp xm xq : List Nat) (blk i j : Nat)
    (hlp : xp.length = A.length) (hlm : xm.length = M.length) (hlq : xq.length = C.length) :
    unblockedIndex (metaTwo A M C lB rB b) (xp ++ blk :: i :: (xm ++ j :: xq)) =
      xp ++ (blk / rB * b + i) :: (xm ++ (blk % rB * b + j) :: xq) := by
  simp only [unblockedIndex, combineIndex, tfBlockOffsets]
  rw [← hlp, getD_at_len, popAt_append_cons]
  simp only [unravel, prod_nil, prod_cons, Nat.mul_one, Nat.div_one, List.zip_cons_cons, List.zip_nil_right,
    List.foldl_cons, List.foldl_nil]
  have e : (A ++ (lB * b) :: (M ++ (rB * b) :: C)).length = xp.length + 1 + (xm.length + 1 + xq.length) := by
    simp [hlp, hlm, hlq]; omega
  rw [e, ← hlm, replicate_set_two, addOff_append _ _ _ _ (by simp), addOff_cons, addOff_append _ _ _ _ (by simp),
    addOff_cons, addOff_zeros _ _ (Nat.le_refl _), addOff_zeros _ _ (Nat.le_refl _),
    addOff_zeros _ _ (Nat.le_refl _)]

theorem blocked_two (A M C : List Nat) (lB rB b : Nat) (ip im iq : List Nat) (ia ic : Nat)
    (hlp : ip.length = A.length) (hlm : im.length = M.length) :
    blockedIndex (metaTwo A M C lB rB b) (ip ++ ia :: (im ++ ic :: iq)) =
      ip ++ (ia / b * rB + ic / b) :: (ia % b) :: (im ++ (ic % b) :: iq) := by
  simp only [blockedIndex, innerIndexOf, blockIndexOf, List.foldl_cons, List.foldl_nil, List.map_cons,
    List.map_nil]
  rw [← hlp, ← hlm, getD_at_len_two, getD_at_len, set_at_len, set_at_len_two, insertAt_append]
  simp [ravel]

/-! ### `BlockedOK`: for each layout, then for every accepted shape -/

/-- What the index-level description of `_blockify` / `_deblockify` with metadata `m` on parameters of shape `S`
consists of: `unblockedIndex m` and `blockedIndex m` are mutually inverse between the in-bounds indices of the
blockified array and those of the parameter, and the two functions read their argument along them. -/
structure BlockedOK (S : List Nat) (m : BlocksMeta) : Prop where
  shape : ∀ {α} (t : Tensor α), t.shape = S → (blockify t m).shape = blockedShape m
  fwd : ∀ x, inBounds (blockedShape m) x →
    inBounds S (unblockedIndex m x) ∧ blockedIndex m (unblockedIndex m x) = x ∧
    ∀ {α} (t : Tensor α), t.shape = S → (blockify t m).get x = t.get (unblockedIndex m x)
  bwd : ∀ idx, inBounds S idx →
    inBounds (blockedShape m) (blockedIndex m idx) ∧ unblockedIndex m (blockedIndex m idx) = idx ∧
    ∀ {α} (X : Tensor α), X.shape = blockedShape m → (deblockify X m).get idx = X.get (blockedIndex m idx)

theorem blockedOK_zero (S : List Nat) (b : Nat) : BlockedOK S (metaZero S b) where
  shape t ht := by subst ht; rfl
  fwd x hx := by
    obtain ⟨x0, inner, rfl, h0, hin⟩ := inBounds_cons_split (d := 1) (C := S) hx
    obtain rfl : x0 = 0 := by omega
    rw [unblocked_zero _ _ _ _ (inBounds_length hin), blocked_zero]
    exact ⟨hin, rfl, fun t ht => by subst ht; exact blockifyZero_get t inner hin⟩
  bwd idx hi := by
    rw [blocked_zero, unblocked_zero _ _ _ _ (inBounds_length hi)]
    exact ⟨⟨Nat.one_pos, hi⟩, rfl, fun X hX => deblockifyZero_get X S idx hX hi⟩

theorem blockedOK_one (A C : List Nat) (n b : Nat) :
    BlockedOK (A ++ (n * b) :: C) (metaOne A C n b) where
  shape t ht := by
    simp only [blockify, blockedShape, Tensor.reshape, ht, List.take_left, seg_drop, insertAt_append]
    simp
  fwd x hx := by
    rw [blockedShape, insertAt_append] at hx
    obtain ⟨xa, u, r, rfl, hxa, hu, hr⟩ := inBounds_append_cons_split hx
    obtain ⟨w, xc, rfl, hw, hxc⟩ := inBounds_cons_split hr
    have hl := inBounds_length hxa
    rw [unblocked_one A C n b xa xc u w hl (inBounds_length hxc)]
    have hJ : inBounds (A ++ (n * b) :: C) (xa ++ (u * b + w) :: xc) :=
      (inBounds_append _ _ _ _ hl).mpr ⟨hxa, mul_add_lt_mul u n b w hu hw, hxc⟩
    refine ⟨hJ, ?_, fun t ht => ?_⟩
    · rw [blocked_one A C n b xa xc _ hl, (divmod_of_lt u w b hw).1, (divmod_of_lt u w b hw).2]
    · have hbf : blockify t (metaOne A C n b) =
          t.reshape (A ++ n :: b :: C) := by
        simp only [blockify, ht, List.take_left, seg_drop]; simp
      rw [hbf]
      exact blockifyOne_get t A C n b ht xa xc u w hl (ht ▸ hJ)
  bwd idx hi := by
    obtain ⟨ip, ia, iq, rfl, hip, hia, hiq⟩ := inBounds_append_cons_split hi
    have hl := inBounds_length hip
    have hb : 0 < b := Nat.pos_of_lt_mul_left hia
    rw [blocked_one A C n b ip iq ia hl, blockedShape, insertAt_append]
    have hJ : inBounds (A ++ n :: b :: C) (ip ++ ia / b :: ia % b :: iq) :=
      (inBounds_append _ _ _ _ hl).mpr ⟨hip, (Nat.div_lt_iff_lt_mul hb).mpr hia, Nat.mod_lt _ hb, hiq⟩
    refine ⟨hJ, ?_, fun X hX => deblockifyOne_get X A C n b hX ip iq ia hl (hX ▸ hJ)⟩
    · rw [unblocked_one A C n b ip iq _ _ hl (inBounds_length hiq), Nat.div_add_mod']

theorem blockedOK_two (A M C : List Nat) (lB rB b : Nat) :
    BlockedOK (A ++ (lB * b) :: (M ++ (rB * b) :: C))
      (metaTwo A M C lB rB b) where
  shape t ht := by
    simp only [blockify, blockifyTwo, blockedShape, Tensor.reshape, insertAt, ht, List.take_left, seg_drop, seg_take,
      seg_drop2]
    simp
  fwd x hx := by
    rw [blockedShape, insertAt_append] at hx
    obtain ⟨xp, blk, r, rfl, hxp, hblk, hr⟩ := inBounds_append_cons_split hx
    obtain ⟨i, r2, rfl, hi, hr2⟩ := inBounds_cons_split hr
    obtain ⟨xm, j, xq, rfl, hxm, hj, hxq⟩ := inBounds_append_cons_split hr2
    have hlp := inBounds_length hxp
    have hlm := inBounds_length hxm
    have hrB : 0 < rB := Nat.pos_of_lt_mul_left hblk
    rw [unblocked_two A M C lB rB b xp xm xq blk i j hlp hlm (inBounds_length hxq)]
    have hJ : inBounds (A ++ (lB * b) :: (M ++ (rB * b) :: C))
        (xp ++ (blk / rB * b + i) :: (xm ++ (blk % rB * b + j) :: xq)) := by
      simp only [inBounds_append _ _ _ _ hlp, inBounds_append _ _ _ _ hlm, inBounds]
      exact ⟨hxp, mul_add_lt_mul _ lB b i ((Nat.div_lt_iff_lt_mul hrB).mpr hblk) hi, hxm,
        mul_add_lt_mul _ rB b j (Nat.mod_lt _ hrB) hj, hxq⟩
    refine ⟨hJ, ?_, fun t ht => ?_⟩
    · rw [blocked_two A M C lB rB b xp xm xq _ _ hlp hlm, (divmod_of_lt _ i b hi).1, (divmod_of_lt _ i b hi).2,
        (divmod_of_lt _ j b hj).1, (divmod_of_lt _ j b hj).2, Nat.div_add_mod']
    · have hbf : blockify t (metaTwo A M C lB rB b) = blockifyTwo t A M C lB rB b (lB * rB) := by
        simp only [blockify, ht, List.take_left, seg_drop, seg_take, seg_drop2]; simp
      rw [hbf]
      exact blockifyTwo_get t A M C lB rB b ht xp xm xq blk i j hxp hxm hxq hblk hi hj (ht ▸ hJ)
  bwd idx hi := by
    obtain ⟨ip, ia, r, rfl, hip, hia, hr⟩ := inBounds_append_cons_split hi
    obtain ⟨im, ic, iq, rfl, him, hic, hiq⟩ := inBounds_append_cons_split hr
    have hlp := inBounds_length hip
    have hlm := inBounds_length him
    have hb : 0 < b := Nat.pos_of_lt_mul_left hia
    have hc : ic / b < rB := (Nat.div_lt_iff_lt_mul hb).mpr hic
    rw [blocked_two A M C lB rB b ip im iq ia ic hlp hlm, blockedShape, insertAt_append]
    have hJ : inBounds (A ++ (lB * rB) :: b :: (M ++ b :: C))
        (ip ++ (ia / b * rB + ic / b) :: (ia % b) :: (im ++ (ic % b) :: iq)) := by
      simp only [inBounds_append _ _ _ _ hlp, inBounds_append _ _ _ _ hlm, inBounds]
      exact ⟨hip, mul_add_lt_mul _ lB rB _ ((Nat.div_lt_iff_lt_mul hb).mpr hia) hc, Nat.mod_lt _ hb, him,
        Nat.mod_lt _ hb, hiq⟩
    refine ⟨hJ, ?_, fun X hX =>
      deblockifyTwo_get X A M C lB rB b _ hX rfl ip im iq ia ic hip him hiq hia hic (hX ▸ hJ)⟩
    · rw [unblocked_two A M C lB rB b ip im iq _ _ _ hlp hlm (inBounds_length hiq), (divmod_of_lt _ _ rB hc).1,
        (divmod_of_lt _ _ rB hc).2, Nat.div_add_mod', Nat.div_add_mod']

theorem blockedOK (S : List Nat) (b : Nat) (hb : 0 < b)
    (hle : (blocksMetadata b S).largeAxes.length ≤ 2)
    (hdiv : ∀ a ∈ (blocksMetadata b S).largeAxes, b ∣ S.getD a 0) : BlockedOK S (blocksMetadata b S) := by
  rcases blocks_cases S b hb hle hdiv with h | ⟨A, C, n, rfl, h⟩ | ⟨A, M, C, lB, rB, rfl, h⟩
  · rw [h]; exact blockedOK_zero S b
  · rw [h]; exact blockedOK_one A C n b
  · rw [h]; exact blockedOK_two A M C lB rB b

/-! ### the block number is in range; the shape of `deblockify`; block size 0 -/

theorem innerIndexOf_length (m : BlocksMeta) (idx : List Nat) : (innerIndexOf m idx).length = idx.length :=
  List.foldlRecOn (motive := fun l : List Nat => l.length = idx.length) _ _ rfl fun _ hs _ _ => (List.length_set ..).trans hs

theorem blocksAxis_le (b : Nat) (S : List Nat) : (blocksMetadata b S).blocksAxis ≤ S.length := by
  show (blocksMetadata b S).largeAxes.headD 0 ≤ S.length
  cases h : (blocksMetadata b S).largeAxes with
  | nil => exact Nat.zero_le _
  | cons a as => exact Nat.le_of_lt ((largeAxes_mem b S a).mp (h ▸ List.mem_cons_self)).1

theorem blocksAxis_le_sizes (b : Nat) (S : List Nat) :
    (blocksMetadata b S).blocksAxis ≤ (blocksMetadata b S).blockSizes.length := by
  simpa [blocksMetadata] using blocksAxis_le b S

theorem blocksAxis_le_innerIndex (b : Nat) {S idx : List Nat} (hi : inBounds S idx) :
    (blocksMetadata b S).blocksAxis ≤ (innerIndexOf (blocksMetadata b S) idx).length := by
  rw [innerIndexOf_length, inBounds_length hi]; exact blocksAxis_le b S

theorem blockIndexOf_lt (b : Nat) (S : List Nat) (hb : 0 < b) (hle : (blocksMetadata b S).largeAxes.length ≤ 2)
    (hdiv : ∀ a ∈ (blocksMetadata b S).largeAxes, b ∣ S.getD a 0) (idx : List Nat) (hi : inBounds S idx) :
    blockIndexOf (blocksMetadata b S) idx < (blocksMetadata b S).numBlocks := by
  -- the blocked index of `idx` is in bounds of the blocked shape: read both at the blocks axis
  have hba := blocksAxis_le_innerIndex b hi
  have hba' := blocksAxis_le_sizes b S
  have h := inBounds_getD ((blockedOK S b hb hle hdiv).bwd idx hi).1 (blocksMetadata b S).blocksAxis (by
    simp only [blockedShape, insertAt, List.length_append, List.length_take, List.length_cons, List.length_drop]; omega)
  rwa [blockedIndex, getD_insertAt_self _ _ _ hba, blockedShape, getD_insertAt_self _ _ _ hba'] at h

theorem deblockify_shape {α} (X : Tensor α) (m : BlocksMeta) (h : m.largeAxes.length ≤ 2) :
    (deblockify X m).shape = m.paramShape := by
  unfold deblockify
  split
  · rfl
  · rfl
  · rfl
  · rename_i h0 h1 h2
    match hm : m.largeAxes, h with
    | [], _ => exact absurd hm h0
    | [a], _ => exact absurd hm (h1 a)
    | [a, c], _ => exact absurd hm (h2 a c)

theorem blocksMetadata_paramShape (b : Nat) (S : List Nat) : (blocksMetadata b S).paramShape = S := rfl

/-- with block size 0 every axis is large, so under `hdiv` every dimension is 0 -/
theorem inBounds_nil_of_block_zero (S idx : List Nat)
    (hdiv : ∀ a ∈ (blocksMetadata 0 S).largeAxes, 0 ∣ S.getD a 0) (hi : inBounds S idx) : S = [] ∧ idx = [] := by
  match S, idx, hi with
  | [], [], _ => exact ⟨rfl, rfl⟩
  | d :: ds, i :: is, hi =>
    have := hdiv 0 ((largeAxes_mem 0 _ 0).mpr ⟨by simp, Nat.zero_le _⟩)
    simp only [List.getD_cons_zero, Nat.zero_dvd] at this
    subst this
    exact absurd hi.1 (Nat.not_lt_zero _)

/-! ### `tfBlockOffsets`: its length, and the fold of `List.set`s behind it read entry by entry -/

theorem largeAxes_nodup (b : Nat) (S : List Nat) : (blocksMetadata b S).largeAxes.Nodup :=
  List.Nodup.filter _ List.nodup_range

theorem tfBlockOffsets_length (m : BlocksMeta) (blk : Nat) : (tfBlockOffsets m blk).length = m.paramShape.length :=
  List.foldlRecOn (motive := fun l : List Nat => l.length = m.paramShape.length) _ _ (List.length_replicate ..)
    fun _ hs _ _ => (List.length_set ..).trans hs

theorem foldl_set_getD_not_mem (f : Nat → Nat) : ∀ (ps : List (Nat × Nat)) (l : List Nat) (k : Nat),
    k ∉ ps.map (·.1) → (ps.foldl (fun l p => l.set p.1 (f p.2)) l).getD k 0 = l.getD k 0
  | [], _, _, _ => rfl
  | p :: ps, l, k, h => by
    simp only [List.map_cons, List.mem_cons, not_or] at h
    rw [List.foldl_cons, foldl_set_getD_not_mem f ps _ k h.2]
    simp [List.getD_eq_getElem?_getD, Ne.symm h.1]

theorem foldl_set_getD_mem (f : Nat → Nat) : ∀ (ps : List (Nat × Nat)) (l : List Nat) (i : Nat)
    (hi : i < ps.length), (ps.map (·.1)).Nodup → ps[i].1 < l.length →
    (ps.foldl (fun l p => l.set p.1 (f p.2)) l).getD ps[i].1 0 = f ps[i].2
  | p :: ps, l, 0, _, hnd, hl => by
    simp only [List.map_cons, List.nodup_cons] at hnd
    simp only [List.getElem_cons_zero, List.foldl_cons] at hl ⊢
    rw [foldl_set_getD_not_mem f ps _ p.1 hnd.1]
    simp [List.getD_eq_getElem?_getD, hl]
  | p :: ps, l, i + 1, hi, hnd, hl => by
    simp only [List.map_cons, List.nodup_cons] at hnd
    simp only [List.getElem_cons_succ, List.foldl_cons] at hl ⊢
    exact foldl_set_getD_mem f ps _ i (by simpa using hi) hnd.2 (by simpa using hl)

end PrecondVerif.Shapes
