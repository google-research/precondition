/-
Lemmas for `Props/Compose.lean`: a parameter is a list of slot automata (its run projects onto each slot, the preconditioners
an update uses are the slots' own stored values), the tree-wide padded batch on `D` devices is C08's `treeRootsG` in either
layout, the batched step of a parameter tree is the map of the per-leaf steps, and the sketch a cadenced Sketchy run stores
is a fold over the gradients let through, of which the bracket is an invariant (`FD.sketchy_fold_bracket`).  Property theorems
it is built on: `C01.newton_error_honest`, `C13.pmap_result_independent_of_D` / `sharded_compute_eq`,
`C09.sketchy_update_axis_bracket`.
-/
import PrecondVerif.Model.Compose
import PrecondVerif.Lemmas.DShampoo
import PrecondVerif.Lemmas.Gate
import PrecondVerif.Lemmas.Schedule
import PrecondVerif.Lemmas.BlockDiag
import PrecondVerif.Props.C01
import PrecondVerif.Props.C09
import PrecondVerif.Props.C13

namespace PrecondVerif.Compose
open PrecondVerif.InvRoot PrecondVerif.Gate PrecondVerif.Schedule PrecondVerif.DShampoo PrecondVerif.Shapes
open PrecondVerif.Graft

section Slot
variable {σ π γ φ δ m α : Type} [Add α] [Mul α] [Sub α] [OfNat α 0] [OfNat α 1]

set_option linter.unusedSectionVars false in
/-- C04's gate on `gateKernels` is C03's `select` -/
theorem gate_eq_select (thr : XF) (statsUpd : σ → γ → σ) (root : σ → π → φ → π × XF) (junk : σ → π)
    (graftUpd : δ → γ → Nat → δ × α × α) (shampooUpd : m → π → γ → Nat → m × α × α) (finish : α → α → Nat → α)
    (old : π) (cand : π × XF) :
    Schedule.gate (gateKernels thr statsUpd root junk graftUpd shampooUpd finish) old cand
      = select cand.2 thr cand.1 old := rfl

set_option linter.unusedSectionVars false in
theorem gateKernels_bad_fail {thr : XF} (hthr : thr.isNaN = false) (statsUpd : σ → γ → σ) (root : σ → π → φ → π × XF)
    (junk : σ → π) (graftUpd : δ → γ → Nat → δ × α × α) (shampooUpd : m → π → γ → Nat → m × α × α)
    (finish : α → α → Nat → α) :
    (gateKernels thr statsUpd root junk graftUpd shampooUpd finish).bad
      (gateKernels thr statsUpd root junk graftUpd shampooUpd finish).failMetrics = true :=
  skip_self hthr

end Slot

section Newton
variable {α : Type} [Field α] [LinearOrder α] [IsStrictOrderedRing α] {n : Nat}

/-- the hypotheses of C01's Newton theorems on the constants and scalar kernels -/
structure NewtonOK (N : NewtonCfg α) : Prop where
  hr : 1 < N.c.rmax
  htol : 0 ≤ N.c.tol
  hnt : 1 ≤ N.c.numTries
  hp : 0 ≤ N.pα
  hroot : ∀ z, 0 ≤ z → N.rootp z ^ N.p = z
  hsqrt : ∀ x, 0 ≤ N.sqrt x
  hcast : ∀ x, N.cast32 x = x

theorem newtonOut_honest (N : NewtonCfg α) (hN : NewtonOK N) (s : Nat) (hs : s ≠ 0) (A : Mat α n n) :
    1 ≤ (newtonOut N s A).retries ∧
    ∀ i j, |((Matrix.of (newtonOut N s A).x) ^ N.p *
        dampedM s A (newtonRidge N s A * 10 ^ ((newtonOut N s A).retries - 1)) - Es α n s) i j| ≤ (newtonOut N s A).err := by
  have h := C01.newton_error_honest s hs N.c N.p N.pα N.alpha N.sqrt N.rootp N.cast32 N.thousand N.epsFloor N.eps
    (N.maxEvOf n s A) A hN.hr hN.htol hN.hnt hN.hp hN.hroot hN.hsqrt hN.hcast
  exact ⟨h.1, h.2.1⟩

end Newton

section Param
variable {α : Type}

abbrev SlotK (α : Type) := Nat → DSKernels (Mx α) (Mx α) XF (List α) Unit Unit Unit Nat

theorem slotsStep_getElem? (mk : SlotK α) (cfg : DSCfg) (slots : List (SlotState α)) (g : List α) (i : Nat) :
    (slotsStep mk cfg slots g)[i]? = slots[i]?.map fun sl => (dsStep (mk i) cfg sl ⟨g, ()⟩).1 := by
  unfold slotsStep
  rw [List.getElem?_mapIdx]

theorem slotsStep_length (mk : SlotK α) (cfg : DSCfg) (slots : List (SlotState α)) (g : List α) :
    (slotsStep mk cfg slots g).length = slots.length := by
  unfold slotsStep; rw [List.length_mapIdx]

theorem slotsStep_getElem (mk : SlotK α) (cfg : DSCfg) (slots : List (SlotState α)) (g : List α) (i : Nat)
    (hi : i < (slotsStep mk cfg slots g).length) :
    (slotsStep mk cfg slots g)[i] =
      (dsStep (mk i) cfg (slots[i]'(by rwa [slotsStep_length] at hi)) ⟨g, ()⟩).1 :=
  List.getElem_mapIdx ..

theorem paramStepWith_slots (upd : Nat → List α → List α → PState α → List (Mx α) → List (Mx α) → Option (TOut α))
    (mk : SlotK α) (cfg : DSCfg) (s : ParamState α) (x : List α × List α) :
    (paramStepWith upd mk cfg s x).1.slots = slotsStep mk cfg s.slots x.1 := rfl

theorem paramStepWith_count (upd : Nat → List α → List α → PState α → List (Mx α) → List (Mx α) → Option (TOut α))
    (mk : SlotK α) (cfg : DSCfg) (s : ParamState α) (x : List α × List α) :
    (paramStepWith upd mk cfg s x).1.count = s.count + 1 := rfl

theorem slotKernelsWith_rootAll [Add α] [Mul α] [OfNat α 0] [Inhabited α] (thr : XF)
    (rootOf : Nat → Mx α → Mx α → Unit → Mx α × XF) (G : Geom) (w1 w2 : α) (i : Nat) : (slotKernelsWith thr rootOf G w1 w2 i).rootAll = rootOf i := rfl

theorem paramRun_slot (upd : Nat → List α → List α → PState α → List (Mx α) → List (Mx α) → Option (TOut α))
    (mk : SlotK α) (cfg : DSCfg) (i : Nat) (hist : List (List α × List α)) : ∀ s0 : ParamState α,
    (run (paramStepWith upd mk cfg) s0 hist).slots[i]? =
      s0.slots[i]?.map fun sl => run (dsStep (mk i) cfg) sl (hist.map fun x => (⟨x.1, ()⟩ : DSInp (List α) Unit)) := by
  induction hist with
  | nil => intro s0; simp [run]
  | cons x hist ih =>
    intro s0
    rw [run_cons, List.map_cons, ih, paramStepWith_slots, slotsStep_getElem?]
    cases s0.slots[i]? <;> simp [run_cons]

theorem paramStateAt_slot (upd : Nat → List α → List α → PState α → List (Mx α) → List (Mx α) → Option (TOut α))
    (mk : SlotK α) (cfg : DSCfg) (i : Nat) (hist : List (List α × List α)) (s0 : ParamState α)
    (hi : i < s0.slots.length) (k : Nat) :
    (stateAt (paramStepWith upd mk cfg) s0 hist k).slots[i]? =
      some (stateAt (dsStep (mk i) cfg) s0.slots[i] (hist.map fun x => (⟨x.1, ()⟩ : DSInp (List α) Unit)) k) := by
  unfold stateAt
  rw [paramRun_slot, List.map_take, List.getElem?_eq_getElem hi, Option.map_some]

theorem usedAt_getElem? (upd : Nat → List α → List α → PState α → List (Mx α) → List (Mx α) → Option (TOut α))
    (mk : SlotK α) (cfg : DSCfg) (s0 : ParamState α) (hist : List (List α × List α)) (t : Nat) (ht : t < hist.length)
    (i : Nat) (hi : i < s0.slots.length) :
    (usedAt mk cfg (stateAt (paramStepWith upd mk cfg) s0 hist t) hist[t].1)[i]? =
      some (stateAt (dsStep (mk i) cfg) s0.slots[i] (hist.map fun x => (⟨x.1, ()⟩ : DSInp (List α) Unit))
        (if cfg.sharded then t else t + 1)).precond := by
  have hproj := paramStateAt_slot upd mk cfg i hist s0 hi t
  unfold usedAt usedPreconds
  split
  · rw [List.getElem?_map, hproj]; rfl
  · rw [List.getElem?_map, slotsStep_getElem?, hproj,
      stateAt_succ (dsStep (mk i) cfg) s0.slots[i] _ t (by rw [List.length_map]; exact ht)]
    simp only [Option.map_some, List.getElem_map]

/-- slot `i` is (block `i / k`, axis `i % k`), and `specNewStat` reads its old statistic at `b·k + j` -/
theorem slotStatsUpd_eq_specNewStat [Add α] [Mul α] [OfNat α 0] [Inhabited α] (G : Geom) (w1 w2 : α)
    (stats : List (Mx α)) (g : List α) (i : Nat) (hi : i < stats.length) :
    slotStatsUpd G w1 w2 i stats[i] g =
      specNewStat w1 w2 stats (G.blocks g) G.pdims (i / G.pdims.length) (i % G.pdims.length) := by
  have e : stats.getD i Mx.zero = stats[i] := by
    rw [List.getD_eq_getElem?_getD, List.getElem?_eq_getElem hi]
    rfl
  unfold slotStatsUpd specNewStat
  rw [Nat.div_add_mod' i G.pdims.length, e]

variable [Field α] [LinearOrder α] [IsStrictOrderedRing α] [Inhabited α]

theorem slotStatsUpd_diag_nonneg (G : Geom) (w1 w2 : α) (hw1 : 0 ≤ w1) (hw2 : 0 ≤ w2) (i : Nat) (L : Mx α)
    (g : List α) (k : Nat) (h : 0 ≤ L k k) : 0 ≤ slotStatsUpd G w1 w2 i L g k k := by
  unfold slotStatsUpd statStep gram
  refine add_nonneg (mul_nonneg hw1 h) (mul_nonneg hw2 (List.sum_nonneg fun x hx => ?_))
  obtain ⟨r, _, rfl⟩ := List.mem_map.mp hx
  exact mul_self_nonneg _

omit [IsStrictOrderedRing α] in
theorem slotKernels_rootAll (thr : XF) (N : NewtonCfg α) (rep : α → XF) (G : Geom) (w1 w2 : α) (dims : Nat → Nat) (i : Nat) :
    (slotKernels thr N rep G w1 w2 dims i).rootAll = newtonSlotRootMx N rep (dims i) := rfl

omit [IsStrictOrderedRing α] in
theorem slotsStep_stats (thr : XF) (N : NewtonCfg α) (rep : α → XF) (G : Geom) (w1 w2 : α) (dims : Nat → Nat)
    (cfg : DSCfg) (slots : List (SlotState α)) (g : List α) (step : Nat)
    (hc : ∀ sl ∈ slots, sl.count = step) (hlen : slots.length = (G.blocks g).length * G.pdims.length) :
    (slotsStep (slotKernels thr N rep G w1 w2 dims) cfg slots g).map (·.stats) =
      specStats G w1 w2 cfg.si step (slots.map (·.stats)) g := by
  -- slot `i` after the step holds `if perform then slotStatsUpd … else old` (`hst`); `specStats` is that list, index by index
  have hst : ∀ i (hi : i < slots.length),
      ((slotsStep (slotKernels thr N rep G w1 w2 dims) cfg slots g).map (·.stats))[i]'(by
        rw [List.length_map, slotsStep_length]; exact hi) =
      if dsPerformStats cfg.si step then slotStatsUpd G w1 w2 i slots[i].stats g else slots[i].stats := by
    intro i hi
    rw [List.getElem_map, slotsStep_getElem]
    rw [dsStep_fst_stats]
    unfold dsStats'
    rw [hc _ (List.getElem_mem hi)]
    rfl
  unfold specStats
  split
  next hp =>
    refine List.ext_getElem (by simp [slotsStep_length, hlen]) fun i h1 _ => ?_
    have hi : i < slots.length := by simpa [slotsStep_length] using h1
    rw [hst i hi, if_pos hp, List.getElem_map, List.getElem_range,
      ← slotStatsUpd_eq_specNewStat G w1 w2 _ g i (by rw [List.length_map]; exact hi), List.getElem_map]
  next hp =>
    refine List.ext_getElem (by simp [slotsStep_length]) fun i h1 _ => ?_
    have hi : i < slots.length := by simpa [slotsStep_length] using h1
    rw [hst i hi, if_neg hp, List.getElem_map]

/-- "`P` is an honest Newton root of the `d × d` statistic `L`, accepted by the gate": `NewtonCert` with `e = rep err` and the
gate's two conditions on `e` (`NewtonCert.honest`, `ComposeForms.lean`) -/
def HonestRootOf (N : NewtonCfg α) (rep : α → XF) (thr : XF) (d : Nat) (L P : Mx α) : Prop :=
  P = toMx (newtonOut N d (ofMx d L)).x ∧
  (rep (newtonOut N d (ofMx d L)).err).isNaN = false ∧ (rep (newtonOut N d (ofMx d L)).err).lt thr = true ∧
  1 ≤ (newtonOut N d (ofMx d L)).retries ∧
  ∀ i j, |((Matrix.of (newtonOut N d (ofMx d L)).x) ^ N.p *
      dampedM d (ofMx d L) (newtonRidge N d (ofMx d L) * 10 ^ ((newtonOut N d (ofMx d L)).retries - 1))
      - Es α d d) i j| ≤ (newtonOut N d (ofMx d L)).err

end Param

section Tree
open PrecondVerif.BlockDiag PrecondVerif.Devices

/-- a leaf's view `global[index_start : index_start + count]` of a flat list is its `regroup` slice -/
theorem regroup_eq_slices {β : Type} (ks : List Nat) : ∀ (o : Nat) (l : List β),
    ((indexStarts ks o).zip ks).map (fun sc => slice sc.1 sc.2 l) = regroup ks (l.drop o) := by
  induction ks with
  | nil => intro _ _; rfl
  | cons k ks ih =>
    intro o l
    simp only [indexStarts, List.zip_cons_cons, List.map_cons, regroup]
    rw [ih (o + k) l, List.drop_drop]
    rfl

variable {α ρ : Type}

theorem distributed_eq_batched (root : Nat → Nat → A2 α → ρ) (filler : Stat α) (D : Nat) (hD : 1 ≤ D)
    (leaves : List (List (Stat α))) :
    distributedTreeRoots root filler D leaves = treeRootsG root leaves := by
  unfold distributedTreeRoots treeRootsG
  dsimp only
  rw [C13.pmap_result_independent_of_D _ filler D _ hD]

theorem sharded_eq_batched (root : Nat → Nat → A2 α → ρ) (filler : Stat α) (D : Nat) (hD : 1 ≤ D)
    (leaves : List (List (Stat α))) :
    shardedTreeRoots root filler D leaves = treeRootsG root leaves := by
  unfold shardedTreeRoots treeRootsG shardedViews
  dsimp only
  rw [C13.sharded_compute_eq _ filler D _ hD, regroup_eq_slices, List.drop_zero, regroup_append]
  rw [List.length_map, List.length_flatten]

theorem distributed_eq_map (root : Nat → Nat → A2 α → ρ) (single : Nat → A2 α → ρ)
    (h : ∀ N s a, s ≤ N → root N s a = single s a) (filler : Stat α) (D : Nat) (hD : 1 ≤ D)
    (leaves : List (List (Stat α))) :
    distributedTreeRoots root filler D leaves = leaves.map (·.map fun st => single st.size st.dat) :=
  (distributed_eq_batched root filler D hD leaves).trans (treeRootsG_eq_map h leaves)

end Tree

section TreeStep
open PrecondVerif.BlockDiag
variable {α : Type}

theorem dsStep_withRes (K : DSKernels (Mx α) (Mx α) XF (List α) Unit Unit Unit Nat) (cfg : DSCfg) (s : SlotState α)
    (g : List α) (r : Mx α × XF) (h : r = K.rootAll (dsStats' K cfg s g) s.precond ()) :
    (dsStep (withRes K r) cfg s ⟨g, ()⟩).1 = (dsStep K cfg s ⟨g, ()⟩).1 := by
  subst h; rfl

theorem paramStepWith_congr (upd : Nat → List α → List α → PState α → List (Mx α) → List (Mx α) → Option (TOut α))
    (mk mk' : SlotK α) (cfg : DSCfg) (s : ParamState α) (x : List α × List α)
    (h : ∀ i (hi : i < s.slots.length),
      (dsStep (mk' i) cfg s.slots[i] ⟨x.1, ()⟩).1 = (dsStep (mk i) cfg s.slots[i] ⟨x.1, ()⟩).1) :
    paramStepWith upd mk' cfg s x = paramStepWith upd mk cfg s x := by
  have e : slotsStep mk' cfg s.slots x.1 = slotsStep mk cfg s.slots x.1 := List.mapIdx_eq_mapIdx_iff.mpr h
  unfold paramStepWith
  rw [e]

theorem treeStep_of_results [OfNat α 0]
    (upd : Nat → Nat → List α → List α → PState α → List (Mx α) → List (Mx α) → Option (TOut α))
    (mk : Nat → SlotK α) (cfg : DSCfg) (ps : List (ParamState α)) (inp : Nat → List α × List α)
    (res : List (List (Mx α × XF)))
    (hres : ∀ l s, ps[l]? = some s → ∀ i (hi : i < s.slots.length), (res.getD l []).getD i (Mx.zero, XF.nan) =
      (mk l i).rootAll (dsStats' (mk l i) cfg s.slots[i] (inp l).1) s.slots[i].precond ()) :
    (ps.mapIdx fun l s =>
      paramStepWith (upd l) (fun i => withRes (mk l i) ((res.getD l []).getD i (Mx.zero, XF.nan))) cfg s (inp l)) =
      treeStepIndep upd mk cfg ps inp := by
  unfold treeStepIndep
  -- through `zipIdx`: a case split on `ps[l]?` under `List.ext_getElem?` is slow in the kernel here
  rw [List.mapIdx_eq_zipIdx_map, List.mapIdx_eq_zipIdx_map]
  refine List.map_congr_left fun sl hsl => ?_
  have hps := List.mem_zipIdx_iff_getElem?.mp hsl
  exact paramStepWith_congr (upd sl.2) (mk sl.2) _ cfg sl.1 (inp sl.2) fun i hi =>
    dsStep_withRes (mk sl.2 i) cfg sl.1.slots[i] (inp sl.2).1 _ (hres sl.2 sl.1 hps i hi)

theorem treeBatch_getD (mk : Nat → SlotK α) (dims : Nat → Nat → Nat) (cfg : DSCfg) (ps : List (ParamState α))
    (inp : Nat → List α × List α) {ρ : Type} (f : Stat α → ρ) (dflt : ρ) (l : Nat) (s : ParamState α)
    (hl : ps[l]? = some s) (i : Nat) (hi : i < s.slots.length) :
    ((((treeBatch mk dims cfg ps inp).map (·.map f)).getD l []).getD i dflt) =
      f ⟨dims l i, tabM (dims l i) (dsStats' (mk l i) cfg s.slots[i] (inp l).1)⟩ := by
  simp [treeBatch, leafNewStats, List.getD_eq_getElem?_getD, List.getElem?_mapIdx, hl, hi]

theorem treeStepBatched_eq_indep [OfNat α 0] (rootB : Nat → Nat → A2 α → Mx α × XF) (single : Nat → A2 α → Mx α × XF)
    (hpad : ∀ N s a, s ≤ N → rootB N s a = single s a) (filler : Stat α) (D : Nat) (hD : 1 ≤ D)
    (upd : Nat → Nat → List α → List α → PState α → List (Mx α) → List (Mx α) → Option (TOut α))
    (mk : Nat → SlotK α) (dims : Nat → Nat → Nat)
    (hroot : ∀ l i L prev, (mk l i).rootAll L prev () = single (dims l i) (tabM (dims l i) L))
    (cfg : DSCfg) (ps : List (ParamState α)) (inp : Nat → List α × List α) :
    treeStepBatched rootB filler D upd mk dims cfg ps inp = treeStepIndep upd mk cfg ps inp := by
  refine treeStep_of_results upd mk cfg ps inp _ fun l s hps i hi => ?_
  rw [distributed_eq_map rootB single hpad filler D hD, hroot,
    treeBatch_getD mk dims cfg ps inp (fun st => single st.size st.dat) _ l s hps i hi]

end TreeStep

theorem sketchyRun_sketch {κ γ υ : Type} (K : SKKernels κ γ υ) (f : Nat) (gs : List γ) : ∀ s0 : SKState κ,
    (run (sketchyStep K f) s0 gs).sketch = (refreshGrads f s0.count gs).foldl K.upd s0.sketch := by
  induction gs with
  | nil => intro _; rfl
  | cons g gs ih =>
    intro s0
    rw [run_cons, ih]
    simp only [sketchyStep, refreshGrads]
    split <;> rfl

end PrecondVerif.Compose

namespace PrecondVerif.FD
open Matrix
variable {R : Type} [Field R] [LinearOrder R] [IsStrictOrderedRing R] [StarRing R] [TrivialStar R]
  [StarOrderedRing R] {d k m : ℕ}

/-- the two-sided bracket is an invariant of folding `_update_axis` over a list of gradients, with `C` following `covFrom`;
here and not in `Lemmas/FD.lean` because it rests on `C09.sketchy_update_axis_bracket` -/
theorem sketchy_fold_bracket (svd : SvdFn R d (k + m)) (sqrt pw : R → R) (hsq : ∀ x, 0 ≤ x → sqrt x * sqrt x = x)
    (hs0 : ∀ x, 0 ≤ sqrt x) (epsilon : R) (relative : Bool) (β : R) (hβ : 0 ≤ β) (hk : k ≤ d)
    (hsvd : ∀ (st : SkState R d k) (G : Mat R d m), SvdSpec (sketchyB sqrt β st G) (svd (sketchyB sqrt β st G)))
    (gs : List (Mat R d m)) : ∀ (st : SkState R d k) (C : Mat R d d),
      (toM C - toM (sketch st.denote)).PosSemidef →
      (toM (sketch st.denote) + st.t • (1 : Matrix (Fin d) (Fin d) R) - toM C).PosSemidef →
      (toM (covFrom β C gs) - toM (sketch
        (gs.foldl (fun st G => (sketchyUpdateAxis svd sqrt pw epsilon relative β st G).st) st).denote)).PosSemidef ∧
      (toM (sketch (gs.foldl (fun st G => (sketchyUpdateAxis svd sqrt pw epsilon relative β st G).st) st).denote)
        + (gs.foldl (fun st G => (sketchyUpdateAxis svd sqrt pw epsilon relative β st G).st) st).t •
          (1 : Matrix (Fin d) (Fin d) R) - toM (covFrom β C gs)).PosSemidef := by
  -- by `induction`: as a recursive definition by cases this statement is slow to compile
  induction gs with
  | nil => exact fun _ _ hlo hhi => ⟨hlo, hhi⟩
  | cons G gs ih =>
    intro st C hlo hhi
    have hb := PrecondVerif.C09.sketchy_update_axis_bracket sqrt pw hsq hs0 epsilon relative β hβ hk st G
      (svd (sketchyB sqrt β st G)) (hsvd st G) (toM C) hlo hhi
    rw [← toM_decay_add_outer] at hb
    rw [List.foldl_cons, covFrom_cons, sketchyUpdateAxis_eq]
    exact ih _ _ hb.2.1 hb.2.2

end PrecondVerif.FD
