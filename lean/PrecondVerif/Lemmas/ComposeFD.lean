/-
Frequent-directions slots of Distributed Shampoo through C03's gated, warm-started (optionally
periodically reset) slot machine, with C09's guarded `_fd_update_root` as the kernel.
-/
import PrecondVerif.Props.C09
import PrecondVerif.Lemmas.Gate

namespace PrecondVerif.Compose
open PrecondVerif.FD PrecondVerif.Gate Matrix

section Gate
variable {R : Type} {d k : ℕ}

/-- did the gate accept the root result of this step? Spelled as the condition of `Gate.slotStepReset_precond`:
`fdWarmRoot_run_brackets` unfolds it and splits both `if`s at once -/
def fdAccepted (thr : XF) (itv count : Nat) (i : Inp (DsOut R d k)) : Bool :=
  performStep itv count && (!i.err.isNaN && i.err.lt thr)

/-- is `count` a reset step (`count % reset_frequency = 0` when `reset_preconditioner` is on)? -/
def isReset (rf : Option Nat) (count : Nat) : Bool :=
  match rf with
  | none => false
  | some f => count % f == 0

theorem warmStart_eq {π : Type} (rf : Option Nat) (zero : π → π) (count : Nat) (p : π) :
    warmStart rf zero count p = if isReset rf count then zero p else p := by
  cases rf <;> simp [warmStart, isReset]

end Gate

section Cov
variable {R : Type} [Field R] [LinearOrder R] {d k : ℕ}

/-- the frequent-directions root of Distributed Shampoo (guarded `_fd_update_root`) as the warm-started root routine of a
C03 slot: the sketch being updated IS the stored value; `Gs count` is the gradient factor of the step, the reported error
and the `efficient_cond` carry are adversarial -/
def fdWarmRoot (svd : SvdFn R d (k + d)) (sqrt pw : R → R) (g : Guards R) (cfg : DsCfg R) (Gs : Nat → Mat R d d)
    (errOf : Nat → DsOut R d k → XF) (junk : Nat → DsOut R d k) : WarmRoot (DsOut R d k) :=
  fun count prev =>
    ⟨dsFdUpdateRootG sqrt pw g cfg prev.st (svd (dsB sqrt cfg prev.st (Gs count))),
     errOf count (dsFdUpdateRootG sqrt pw g cfg prev.st (svd (dsB sqrt cfg prev.st (Gs count)))), junk count⟩

theorem fdWarmRoot_cand (svd : SvdFn R d (k + d)) (sqrt pw : R → R) (g : Guards R) (cfg : DsCfg R) (Gs : Nat → Mat R d d)
    (errOf : Nat → DsOut R d k → XF) (junk : Nat → DsOut R d k) (count : Nat) (prev : DsOut R d k) :
    (fdWarmRoot svd sqrt pw g cfg Gs errOf junk count prev).cand =
      dsFdUpdateRootG sqrt pw g cfg prev.st (svd (dsB sqrt cfg prev.st (Gs count))) := rfl

/-- what the per-step ridge and the re-masking of `_fd_update_root` add to the sketch before it is decayed -/
def ridgeShift (cfg : DsCfg R) (st : State R d k) : Matrix (Fin d) (Fin d) R :=
  toM (sketch (dsInput cfg st)) - toM (sketch st)

/-- the matrix the stored sketch is claimed to bracket, along a run of the gated (optionally periodically reset)
warm-start slot machine: an ACCEPTED refresh step replaces `C` by `β·(C_w + ridgeShift) + G̃ G̃ᵀ`, where `C_w = 0` on a
reset step (`count % reset_frequency = 0`: the warm start is the zero sketch) and `C_w = C` otherwise; every other step
(not a refresh step, or rejected: NaN / too large error) leaves `C` untouched -/
def fdCovRun (thr : XF) (itv : Nat) (rf : Option Nat) (zero : DsOut R d k → DsOut R d k) (cfg : DsCfg R)
    (Gs : Nat → Mat R d d) (root : WarmRoot (DsOut R d k)) :
    Nat → Slot (DsOut R d k) → Matrix (Fin d) (Fin d) R → Nat → Matrix (Fin d) (Fin d) R
  | _, _, C, 0 => C
  | count, s, C, n + 1 =>
    let w := warmStart rf zero count s.precond
    let Cw : Matrix (Fin d) (Fin d) R := if isReset rf count then 0 else C
    let C' := if fdAccepted thr itv count (root count w) then
        cfg.β • (Cw + ridgeShift cfg w.st) + toM (outer (dsMaskG cfg.ps (Gs count))) else C
    fdCovRun thr itv rf zero cfg Gs root (count + 1) (slotStepReset select thr itv rf zero count root s) C' n

theorem fdCovRun_succ (thr : XF) (itv : Nat) (rf : Option Nat) (zero : DsOut R d k → DsOut R d k) (cfg : DsCfg R)
    (Gs : Nat → Mat R d d) (root : WarmRoot (DsOut R d k)) (count : Nat) (s : Slot (DsOut R d k))
    (C : Matrix (Fin d) (Fin d) R) (n : Nat) :
    fdCovRun thr itv rf zero cfg Gs root count s C (n + 1) =
      fdCovRun thr itv rf zero cfg Gs root (count + 1) (slotStepReset select thr itv rf zero count root s)
        (if fdAccepted thr itv count (root count (warmStart rf zero count s.precond)) then
          cfg.β • ((if isReset rf count then 0 else C) + ridgeShift cfg (warmStart rf zero count s.precond).st)
            + toM (outer (dsMaskG cfg.ps (Gs count))) else C) n := rfl

/-- non-negative eigenvalues and escaped mass: with `Brackets` (below), the invariant the FD slot keeps along a run -/
def FdGood (st : State R d k) : Prop := (∀ a, 0 ≤ st.l a) ∧ 0 ≤ st.t

end Cov

section Invariant
variable {R : Type} [Field R] [LinearOrder R] [StarRing R] {d k : ℕ}

/-- "`C` is bracketed by the sketch `st`": `V diag(l) Vᵀ ≤ C ≤ V diag(l) Vᵀ + t·I` -/
def Brackets (st : State R d k) (C : Matrix (Fin d) (Fin d) R) : Prop :=
  (C - toM (sketch st)).PosSemidef ∧ (toM (sketch st) + st.t • (1 : Matrix (Fin d) (Fin d) R) - C).PosSemidef

/-- `FD.BracketInv`, the run invariant of `Lemmas/FD.lean`, is `Brackets` together with `FdGood` -/
theorem bracketInv_iff (st : State R d k) (C : Matrix (Fin d) (Fin d) R) : BracketInv st C ↔ Brackets st C ∧ FdGood st :=
  ⟨fun h => ⟨⟨h.1, h.2.1⟩, h.2.2⟩, fun h => ⟨h.1.1, h.1.2, h.2⟩⟩

theorem brackets_zero : Brackets (State.zero d k : State R d k) 0 :=
  ((bracketInv_iff _ _).mp bracketInv_zero).1

end Invariant

section Run
variable {R : Type} [Field R] [LinearOrder R] [IsStrictOrderedRing R] [StarRing R] [TrivialStar R]
  [StarOrderedRing R] {d k : ℕ}
variable (svd : SvdFn R d (k + d)) (sqrt pw : R → R) (hsq : ∀ x, 0 ≤ x → sqrt x * sqrt x = x)
  (hs0 : ∀ x, 0 ≤ sqrt x) (g : Guards R) (hlo : g.lo ≤ 1) (hhi : 1 ≤ g.hi) (hgt : 0 ≤ g.thr) (cfg : DsCfg R)
  (hβ : 0 ≤ cfg.β) (hps : cfg.ps ≠ 0) (he : 0 ≤ cfg.ridgeEps) (htol : 0 ≤ cfg.tol) (hk : k ≤ d)
  (hsvd : ∀ (st : State R d k) (G : Mat R d d), SvdSpec (dsB sqrt cfg st G) (svd (dsB sqrt cfg st G)))
include hsq hs0 hlo hhi hgt hβ hps he htol hk hsvd

/-- one accepted FD step keeps the bracket: the guards are identities (C09), the step is the generic one from `dsInput cfg st`,
whose ridge shift is made part of `C` -/
theorem dsFdUpdateRootG_brackets (st : State R d k) (G : Mat R d d) (C : Matrix (Fin d) (Fin d) R) (hg : FdGood st) (hb : Brackets st C) :
    Brackets (dsFdUpdateRootG sqrt pw g cfg st (svd (dsB sqrt cfg st G))).st
        (cfg.β • (C + ridgeShift cfg st) + toM (outer (dsMaskG cfg.ps G))) ∧
      FdGood (dsFdUpdateRootG sqrt pw g cfg st (svd (dsB sqrt cfg st G))).st := by
  have hC1 : (C + ridgeShift cfg st - toM (sketch (dsInput cfg st))).PosSemidef := by
    convert hb.1 using 1
    unfold ridgeShift; abel
  have hC2 : (toM (sketch (dsInput cfg st)) + (dsInput cfg st).t • (1 : Matrix (Fin d) (Fin d) R)
      - (C + ridgeShift cfg st)).PosSemidef := by
    convert hb.2 using 1
    rw [dsInput_t]; unfold ridgeShift; abel
  have hin : BracketInv (dsInput cfg st) (C + ridgeShift cfg st) :=
    ⟨hC1, hC2, dsInput_l_nonneg cfg he htol st hg.1, hg.2⟩
  have hstep := hin.step sqrt hsq cfg.β hβ hk (dsMaskG cfg.ps G) (svd (dsB sqrt cfg st G))
    (by rw [← dsB_eq]; exact hsvd st G)
  rw [dsInput_t] at hstep
  rw [C09.ds_guards_are_identities sqrt pw hsq hs0 g hlo hhi hgt cfg hβ hk st hg.2 G _ (hsvd st G),
    dsFdUpdateRootO_st pw cfg hps st _ hstep.2.2.2]
  exact (bracketInv_iff _ _).mp hstep

/-- **the stored FD sketch brackets the accepted history**: the matrix it brackets after `n` steps is `fdCovRun … C n`, which
applies the exact recurrence at the accepted refresh steps only -/
theorem fdWarmRoot_run_brackets (thr : XF) (hthr : thr.isNaN = false) (itv : Nat) (rf : Option Nat) (zero : DsOut R d k → DsOut R d k)
    (hz : ∀ p, (zero p).st = State.zero d k) (Gs : Nat → Mat R d d) (errOf : Nat → DsOut R d k → XF)
    (junk : Nat → DsOut R d k) :
    ∀ (n count : Nat) (s : Slot (DsOut R d k)) (C : Matrix (Fin d) (Fin d) R),
      FdGood s.precond.st → Brackets s.precond.st C →
      FdGood (slotRunReset select thr itv rf zero (fdWarmRoot svd sqrt pw g cfg Gs errOf junk) count s n).precond.st ∧
      Brackets (slotRunReset select thr itv rf zero (fdWarmRoot svd sqrt pw g cfg Gs errOf junk) count s n).precond.st
        (fdCovRun thr itv rf zero cfg Gs (fdWarmRoot svd sqrt pw g cfg Gs errOf junk) count s C n) := by
  intro n
  induction n with
  | zero => exact fun _ _ _ hg hb => ⟨hg, hb⟩
  | succ n ih =>
    intro count s C hg hb
    have hw : FdGood (warmStart rf zero count s.precond).st ∧
        Brackets (warmStart rf zero count s.precond).st (if isReset rf count then 0 else C) := by
      rw [warmStart_eq]
      by_cases hr : isReset rf count = true
      · rw [if_pos hr, if_pos hr, hz]
        exact ((bracketInv_iff _ _).mp bracketInv_zero).symm
      · rw [if_neg hr, if_neg hr]; exact ⟨hg, hb⟩
    have hstep := dsFdUpdateRootG_brackets svd sqrt pw hsq hs0 g hlo hhi hgt cfg hβ hps he htol hk hsvd
      (warmStart rf zero count s.precond).st (Gs count) _ hw.1 hw.2
    rw [slotRunReset_succ, fdCovRun_succ]
    refine ih (count + 1) _ _ ?_ ?_
    · rw [slotStepReset_precond thr hthr, fdWarmRoot_cand]
      split
      · exact hstep.2
      · exact hg
    · rw [slotStepReset_precond thr hthr, fdWarmRoot_cand, fdAccepted]
      split
      · exact hstep.1
      · exact hb

end Run
end PrecondVerif.Compose
