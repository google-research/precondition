/-
Lemmas about the SM3 model (`Model/SM3.lean`).

The accumulator lemmas hold in every linear order with a distinguished `0` (no arithmetic at all):
the update rule `upd` is a parameter.  The arithmetic instance (`codeUpd`) is treated in ordered fields.
In file order: multi-indices, what needs no order, the accumulators and the cover invariant (`cover_foldl`), the weight
`wOf`, the code's rule, the closed form `decayedSum`.
-/
import PrecondVerif.Model.SM3
import Mathlib.Data.List.Induction
import Mathlib.Algebra.Order.Field.Basic
import Mathlib.Algebra.BigOperators.Ring.List

namespace PrecondVerif.SM3

theorem mem_indices {shape idx : List Nat} :
    idx ∈ indices shape ↔ List.Forall₂ (· < ·) idx shape := by
  induction shape generalizing idx with
  | nil => simp [indices]
  | cons d ds ih =>
    simp only [indices, List.mem_flatMap, List.mem_range, List.mem_map]
    constructor
    · rintro ⟨i, hi, t, ht, rfl⟩
      exact List.Forall₂.cons hi (ih.mp ht)
    · intro h
      cases h with
      | cons hi ht => exact ⟨_, hi, _, ih.mpr ht, rfl⟩

theorem length_of_mem_indices {shape idx : List Nat} (h : idx ∈ indices shape) :
    idx.length = shape.length :=
  (mem_indices.mp h).length_eq

theorem getD_lt_of_mem_indices {shape idx : List Nat} (h : idx ∈ indices shape) (k : Nat)
    (hk : k < shape.length) : idx.getD k 0 < shape.getD k 0 := by
  have hk' : k < idx.length := length_of_mem_indices h ▸ hk
  rw [List.getD_eq_getElem?_getD, List.getD_eq_getElem?_getD, List.getElem?_eq_getElem hk,
    List.getElem?_eq_getElem hk']
  exact (mem_indices.mp h).get hk' hk

theorem cons_mem_indices {d i : Nat} {ds t : List Nat} (hi : i < d) (ht : t ∈ indices ds) :
    i :: t ∈ indices (d :: ds) :=
  mem_indices.mpr (List.Forall₂.cons hi (mem_indices.mp ht))

theorem indices_nonempty (shape : List Nat) (hpos : ∀ d ∈ shape, 0 < d) :
    ∃ idx, idx ∈ indices shape := by
  induction shape with
  | nil => exact ⟨[], List.mem_singleton_self []⟩
  | cons d ds ih =>
    obtain ⟨t, ht⟩ := ih (fun x hx => hpos x (List.mem_cons_of_mem _ hx))
    exact ⟨0 :: t, cons_mem_indices (hpos d List.mem_cons_self) ht⟩

theorem exists_index (shape : List Nat) (hpos : ∀ d ∈ shape, 0 < d) (i j : Nat)
    (hi : i < shape.length) (hj : j < shape.getD i 0) :
    ∃ idx, idx ∈ indices shape ∧ idx.getD i 0 = j := by
  induction shape generalizing i with
  | nil => exact absurd hi (Nat.not_lt_zero i)
  | cons d ds ih =>
    have hpos' : ∀ x ∈ ds, 0 < x := fun x hx => hpos x (List.mem_cons_of_mem _ hx)
    cases i with
    | zero =>
      obtain ⟨t, ht⟩ := indices_nonempty ds hpos'
      exact ⟨j :: t, cons_mem_indices hj ht, rfl⟩
    | succ i =>
      obtain ⟨t, ht, htj⟩ := ih hpos' i (Nat.lt_of_succ_lt_succ hi) hj
      exact ⟨0 :: t, cons_mem_indices (hpos d List.mem_cons_self) ht, htj⟩

theorem mem_indices_singleton {d : Nat} {idx : List Nat} (h : idx ∈ indices [d]) : idx = [idx.getD 0 0] := by
  obtain _ | ⟨_, ht⟩ := mem_indices.mp h
  cases ht
  rfl

section plain
variable {α : Type}

theorem mem_sliceVals {pairs : List (List Nat × α)} {i j : Nat} {x : α} :
    x ∈ (pairs.filter fun p => p.1.getD i 0 == j).map (·.2) ↔ ∃ p ∈ pairs, p.1.getD i 0 = j ∧ p.2 = x := by
  simp only [List.mem_map, List.mem_filter, beq_iff_eq, and_assoc]

variable [OfNat α 0]

theorem mem_coverVals {accs : Accs α} {idx : List Nat} {x : α} :
    x ∈ coverVals accs idx ↔ ∃ k, k < idx.length ∧ accGet accs k (idx.getD k 0) = x := by
  unfold coverVals
  rw [List.mem_map]
  exact exists_congr fun k => and_congr_left fun _ => List.mem_range

theorem accGet_initAccs (shape : List Nat) (i j : Nat) : accGet (initAccs (α := α) shape) i j = 0 := by
  unfold accGet initAccs
  rw [List.getD_eq_getElem?_getD, List.getElem?_map, Array.getD_eq_getD_getElem?]
  cases shape[i]? with
  | none => rfl
  | some d =>
    rw [Option.map_some, Option.getD_some, Array.getElem?_replicate]
    split <;> rfl

theorem adaRun_concat (upd : α → α → α) (gs : List (List Nat → α)) (g : List Nat → α)
    (idx : List Nat) : adaRun upd (gs ++ [g]) idx = upd (adaRun upd gs idx) (g idx) := by
  simp [adaRun, List.foldl_append]

theorem adaRun_induction (upd : α → α → α) (P : α → Prop) (h0 : P 0) (hstep : ∀ a g, P a → P (upd a g))
    (gs : List (List Nat → α)) (idx : List Nat) : P (adaRun upd gs idx) := by
  unfold adaRun
  exact List.foldlRecOn (motive := P) gs _ h0 fun s hs g _ => hstep s (g idx) hs

end plain

section order
variable {α : Type} [LinearOrder α]

theorem minG_eq (a b : α) : minG a b = min a b :=
  (min_def_lt b a).symm.trans (min_comm b a)

theorem maxG_eq (a b : α) : maxG a b = max a b :=
  (max_def_lt a b).symm

variable [OfNat α 0]

/-! ### `minL`, `maxL` on non-empty lists are core's `List.min`, `List.max` -/

theorem minL_eq_min : ∀ {l : List α} (hne : l ≠ []), minL l = l.min hne
  | v :: vs, _ => congrArg (fun f => vs.foldl f v) (funext₂ minG_eq)

theorem maxL_eq_max : ∀ {l : List α} (hne : l ≠ []), maxL l = l.max hne
  | v :: vs, _ => congrArg (fun f => vs.foldl f v) (funext₂ maxG_eq)

theorem minL_le {l : List α} {x : α} (hx : x ∈ l) : minL l ≤ x := by
  rw [minL_eq_min (List.ne_nil_of_mem hx)]
  exact List.min_le_of_mem hx

theorem le_minL {l : List α} (hne : l ≠ []) {c : α} (h : ∀ x ∈ l, c ≤ x) : c ≤ minL l := by
  rw [minL_eq_min hne]
  exact (List.le_min_iff hne).mpr h

theorem le_maxL {l : List α} {x : α} (hx : x ∈ l) : x ≤ maxL l := by
  rw [maxL_eq_max (List.ne_nil_of_mem hx)]
  exact List.le_max_of_mem hx

theorem maxL_mem {l : List α} (hne : l ≠ []) : maxL l ∈ l := by
  rw [maxL_eq_max hne]
  exact List.max_mem hne

theorem cover_le {accs : Accs α} {idx : List Nat} {k : Nat} (hk : k < idx.length) :
    cover accs idx ≤ accGet accs k (idx.getD k 0) :=
  minL_le (mem_coverVals.mpr ⟨k, hk, rfl⟩)

theorem le_cover {accs : Accs α} {idx : List Nat} (h : 0 < idx.length) {c : α}
    (hc : ∀ k, k < idx.length → c ≤ accGet accs k (idx.getD k 0)) : c ≤ cover accs idx :=
  le_minL (List.ne_nil_of_mem (mem_coverVals.mpr ⟨0, h, rfl⟩))
    (List.forall_mem_map.mpr fun k hk => hc k (List.mem_range.mp hk))

theorem cover_singleton (accs : Accs α) (j : Nat) : cover accs [j] = accGet accs 0 j := rfl

theorem accGet_sketch (shape : List Nat) (pairs : List (List Nat × α)) (i j : Nat) :
    accGet (sketch shape pairs) i j
      = if i < shape.length ∧ j < shape.getD i 0 then sliceMax pairs i j else 0 := by
  unfold accGet sketch
  rw [List.getD_eq_getElem?_getD, List.getElem?_map, Array.getD_eq_getD_getElem?]
  by_cases hi : i < shape.length
  · rw [List.getElem?_range hi, Option.map_some, Option.getD_some, Array.getElem?_ofFn]
    by_cases hj : j < shape.getD i 0
    · rw [dif_pos hj, if_pos ⟨hi, hj⟩]
      rfl
    · rw [dif_neg hj, if_neg (fun h => hj h.2)]
      rfl
  · rw [List.getElem?_eq_none (by rw [List.length_range]; exact Nat.le_of_not_lt hi), if_neg (fun h => hi h.1)]
    rfl

theorem cover_initAccs (shape idx : List Nat) : cover (initAccs (α := α) shape) idx = 0 := by
  cases idx with
  | nil => rfl
  | cons i t =>
    have h : 0 < (i :: t).length := Nat.zero_lt_succ _
    apply le_antisymm
    · exact le_of_le_of_eq (cover_le h) (accGet_initAccs shape 0 _)
    · exact le_cover h (fun k _ => le_of_eq (accGet_initAccs shape k _).symm)

theorem le_sliceMax {pairs : List (List Nat × α)} {p : List Nat × α} (hp : p ∈ pairs) {i j : Nat}
    (hj : p.1.getD i 0 = j) : p.2 ≤ sliceMax pairs i j :=
  le_maxL (mem_sliceVals.mpr ⟨p, hp, hj, rfl⟩)

theorem sliceMax_attained {pairs : List (List Nat × α)} {i j : Nat}
    (h : ∃ p ∈ pairs, p.1.getD i 0 = j) :
    ∃ p ∈ pairs, p.1.getD i 0 = j ∧ sliceMax pairs i j = p.2 := by
  obtain ⟨p0, hp0, hj0⟩ := h
  obtain ⟨p, hp, hj, he⟩ :=
    mem_sliceVals.mp (maxL_mem (List.ne_nil_of_mem (mem_sliceVals.mpr ⟨p0, hp0, hj0, rfl⟩)))
  exact ⟨p, hp, hj, he.symm⟩

theorem mem_nuList {upd : α → α → α} {shape : List Nat} {accs : Accs α} {g : List Nat → α}
    {p : List Nat × α} :
    p ∈ nuList upd shape accs g ↔ ∃ idx, idx ∈ indices shape ∧ p = (idx, nuAt upd accs g idx) := by
  unfold nuList
  rw [List.mem_map]
  exact exists_congr fun idx => and_congr_right fun _ => eq_comm

theorem accGet_accStep (upd : α → α → α) (shape : List Nat) (accs : Accs α) (g : List Nat → α)
    {i j : Nat} (hi : i < shape.length) (hj : j < shape.getD i 0) :
    accGet (accStep upd shape accs g) i j = sliceMax (nuList upd shape accs g) i j := by
  unfold accStep
  rw [accGet_sketch, if_pos ⟨hi, hj⟩]

theorem nuAt_le_accGet_accStep (upd : α → α → α) (shape : List Nat) (accs : Accs α)
    (g : List Nat → α) {idx : List Nat} (hidx : idx ∈ indices shape) {k : Nat}
    (hk : k < shape.length) :
    nuAt upd accs g idx ≤ accGet (accStep upd shape accs g) k (idx.getD k 0) := by
  rw [accGet_accStep upd shape accs g hk (getD_lt_of_mem_indices hidx k hk)]
  exact le_sliceMax (p := (idx, nuAt upd accs g idx)) (mem_nuList.mpr ⟨idx, hidx, rfl⟩) rfl

/-- **Key step.** After an update from *any* state, the cover of a coordinate is at least its ν. -/
theorem nuAt_le_cover_accStep (upd : α → α → α) (shape : List Nat) (hne : shape ≠ [])
    (accs : Accs α) (g : List Nat → α) {idx : List Nat} (hidx : idx ∈ indices shape) :
    nuAt upd accs g idx ≤ cover (accStep upd shape accs g) idx :=
  le_cover (length_of_mem_indices hidx ▸ List.length_pos_iff.mpr hne) fun _ hk =>
    nuAt_le_accGet_accStep upd shape accs g hidx (length_of_mem_indices hidx ▸ hk)

theorem accGet_accStep_attained (upd : α → α → α) (shape : List Nat) (hpos : ∀ d ∈ shape, 0 < d)
    (accs : Accs α) (g : List Nat → α) {i j : Nat} (hi : i < shape.length)
    (hj : j < shape.getD i 0) :
    ∃ idx, idx ∈ indices shape ∧ idx.getD i 0 = j ∧
      accGet (accStep upd shape accs g) i j = nuAt upd accs g idx := by
  obtain ⟨idx0, hidx0, hj0⟩ := exists_index shape hpos i j hi hj
  obtain ⟨p, hp, hpj, hpe⟩ := sliceMax_attained (pairs := nuList upd shape accs g)
    ⟨(idx0, nuAt upd accs g idx0), mem_nuList.mpr ⟨idx0, hidx0, rfl⟩, hj0⟩
  obtain ⟨idx, hidx, rfl⟩ := mem_nuList.mp hp
  exact ⟨idx, hidx, hpj, (accGet_accStep upd shape accs g hi hj).trans hpe⟩

/-- rank 1: the new accumulator is ν itself (the code's `grad.ndim == 1` shortcut) -/
theorem accGet_accStep_rank1 (upd : α → α → α) (d : Nat) (accs : Accs α) (g : List Nat → α) {j : Nat}
    (hj : j < d) : accGet (accStep upd [d] accs g) 0 j = nuAt upd accs g [j] := by
  obtain ⟨idx, hidx, hij, he⟩ := accGet_accStep_attained upd [d]
    (fun x hx => List.mem_singleton.mp hx ▸ Nat.zero_lt_of_lt hj) accs g (i := 0) Nat.zero_lt_one hj
  rw [he, mem_indices_singleton hidx, hij]

/-- the invariant behind monotonicity: every stored accumulator entry is no larger than the cover of
some coordinate of its slice (so it is *attained* as that coordinate's minimum) -/
def Tight (shape : List Nat) (accs : Accs α) : Prop :=
  ∀ i j, i < shape.length → j < shape.getD i 0 →
    ∃ idx, idx ∈ indices shape ∧ idx.getD i 0 = j ∧ accGet accs i j ≤ cover accs idx

theorem tight_initAccs (shape : List Nat) (hpos : ∀ d ∈ shape, 0 < d) :
    Tight shape (initAccs (α := α) shape) := by
  intro i j hi hj
  obtain ⟨idx, hidx, hij⟩ := exists_index shape hpos i j hi hj
  refine ⟨idx, hidx, hij, ?_⟩
  rw [accGet_initAccs, cover_initAccs]

theorem tight_accStep (upd : α → α → α) (shape : List Nat) (hpos : ∀ d ∈ shape, 0 < d)
    (accs : Accs α) (g : List Nat → α) : Tight shape (accStep upd shape accs g) := by
  intro i j hi hj
  obtain ⟨idx, hidx, hij, he⟩ := accGet_accStep_attained upd shape hpos accs g hi hj
  exact ⟨idx, hidx, hij, he ▸ nuAt_le_cover_accStep upd shape
    (List.ne_nil_of_length_pos (Nat.zero_lt_of_lt hi)) accs g hidx⟩

theorem accRun_concat (upd : α → α → α) (shape : List Nat) (gs : List (List Nat → α))
    (g : List Nat → α) :
    accRun upd shape (gs ++ [g]) = accStep upd shape (accRun upd shape gs) g := by
  simp [accRun, List.foldl_append]

theorem tight_accRun (upd : α → α → α) (shape : List Nat) (hpos : ∀ d ∈ shape, 0 < d)
    (gs : List (List Nat → α)) : Tight shape (accRun upd shape gs) := by
  unfold accRun
  exact List.foldlRecOn (motive := Tight shape) gs _ (tight_initAccs shape hpos) fun accs _ g _ =>
    tight_accStep upd shape hpos accs g

theorem accGet_le_accStep_of_tight (upd : α → α → α) (hinfl : ∀ a g, a ≤ upd a g)
    (shape : List Nat) (accs : Accs α) (ht : Tight shape accs) (g : List Nat → α) {i j : Nat}
    (hi : i < shape.length) (hj : j < shape.getD i 0) :
    accGet accs i j ≤ accGet (accStep upd shape accs g) i j := by
  obtain ⟨idx, hidx, hij, hle⟩ := ht i j hi hj
  have h1 := nuAt_le_accGet_accStep upd shape accs g hidx hi
  rw [hij] at h1
  exact le_trans hle (le_trans (hinfl _ _) h1)

/-- The main induction of C12. The start is generalised to any pair of states with `s ≤ cover accs idx` (the run from
zero is `cover_run` below); one step keeps it by monotonicity of `upd` and `nuAt_le_cover_accStep`. -/
theorem cover_foldl (upd : α → α → α) (hmono : ∀ a b g, a ≤ b → upd a g ≤ upd b g)
    (shape : List Nat) (hne : shape ≠ []) {idx : List Nat} (hidx : idx ∈ indices shape) :
    ∀ (gs : List (List Nat → α)) (accs : Accs α) (s : α), s ≤ cover accs idx →
      gs.foldl (fun s g => upd s (g idx)) s ≤ cover (gs.foldl (accStep upd shape) accs) idx
  | [], _, _, h => h
  | g :: gs, accs, _, h =>
    cover_foldl upd hmono shape hne hidx gs _ _
      (le_trans (hmono _ _ (g idx) h) (nuAt_le_cover_accStep upd shape hne accs g hidx))

theorem cover_run (upd : α → α → α) (hmono : ∀ a b g, a ≤ b → upd a g ≤ upd b g)
    (shape : List Nat) (hne : shape ≠ []) (gs : List (List Nat → α)) {idx : List Nat}
    (hidx : idx ∈ indices shape) :
    adaRun upd gs idx ≤ cover (accRun upd shape gs) idx :=
  cover_foldl upd hmono shape hne hidx gs _ _ (le_of_eq (cover_initAccs shape idx).symm)

end order

section weight
variable {α : Type} [LinearOrder α] [One α] [Sub α]

theorem wOf_one : wOf (1 : α) = 1 := by
  unfold wOf
  rw [if_neg (lt_irrefl 1), if_neg (lt_irrefl 1)]

theorem wOf_of_ne {β : α} (h : β ≠ 1) : wOf β = 1 - β := by
  unfold wOf
  rcases lt_or_gt_of_ne h with h | h
  · rw [if_pos h]
  · rw [if_neg (lt_asymm h), if_pos h]

end weight

section field
variable {α : Type} [Field α] [LinearOrder α] [IsStrictOrderedRing α]

theorem codeUpd_mono {β2 : α} (hβ : 0 ≤ β2) (w : α) (a b g : α) (h : a ≤ b) :
    codeUpd β2 w a g ≤ codeUpd β2 w b g := by
  unfold codeUpd
  exact add_le_add (mul_le_mul_of_nonneg_left h hβ) le_rfl

theorem codeUpd_infl {w : α} (hw : 0 ≤ w) (a g : α) : a ≤ codeUpd 1 w a g := by
  unfold codeUpd
  rw [one_mul]
  exact le_add_of_nonneg_right (mul_nonneg hw (mul_self_nonneg g))

theorem codeUpd_nonneg {β2 w : α} (hβ : 0 ≤ β2) (hw : 0 ≤ w) {a : α} (ha : 0 ≤ a) (g : α) :
    0 ≤ codeUpd β2 w a g :=
  add_nonneg (mul_nonneg hβ ha) (mul_nonneg hw (mul_self_nonneg g))

theorem wOf_nonneg {β : α} (h : β ≤ 1) : 0 ≤ wOf β := by
  by_cases h1 : β = 1
  · rw [h1, wOf_one]
    exact zero_le_one
  · rw [wOf_of_ne h1]
    exact sub_nonneg.mpr h

theorem adaRun_nonneg {β2 w : α} (hβ : 0 ≤ β2) (hw : 0 ≤ w) (gs : List (List Nat → α))
    (idx : List Nat) : 0 ≤ adaRun (codeUpd β2 w) gs idx :=
  adaRun_induction _ (0 ≤ ·) (le_refl 0) (fun _ g ha => codeUpd_nonneg hβ hw ha g) gs idx

end field

section closedForm
variable {α : Type} [Field α]

/-- exact decayed sum of squared gradients of one coordinate: `Σ_t β2^(T-1-t) · w · g_t²` -/
def decayedSum (β2 w : α) (gs : List (List Nat → α)) (idx : List Nat) : α :=
  ((List.range gs.length).map fun t =>
    β2 ^ (gs.length - 1 - t) * (w * ((gs.getD t (fun _ => 0)) idx * (gs.getD t (fun _ => 0)) idx))).sum

/-- the recursion of which `decayedSum` is the closed form -/
theorem decayedSum_concat (β2 w : α) (gs : List (List Nat → α)) (g : List Nat → α) (idx : List Nat) :
    decayedSum β2 w (gs ++ [g]) idx = β2 * decayedSum β2 w gs idx + w * (g idx * g idx) := by
  unfold decayedSum
  rw [List.length_append, List.length_singleton, List.range_succ, List.map_append, List.sum_append,
    ← List.sum_map_mul_left, List.map_singleton, List.sum_singleton, Nat.add_sub_cancel, Nat.sub_self, pow_zero,
    one_mul, List.getD_eq_getElem?_getD (l := gs ++ [g]) (i := gs.length), List.getElem?_concat_length]
  refine congrArg (· + w * (g idx * g idx)) (congrArg List.sum (List.map_congr_left fun t ht => ?_))
  have ht' : t < gs.length := List.mem_range.mp ht
  rw [← mul_assoc β2, ← pow_succ', Nat.sub_right_comm, Nat.sub_add_cancel (Nat.sub_pos_of_lt ht'),
    List.getD_eq_getElem?_getD, List.getElem?_append_left ht', ← List.getD_eq_getElem?_getD]

theorem adaRun_eq_decayedSum (β2 w : α) (gs : List (List Nat → α)) (idx : List Nat) :
    adaRun (codeUpd β2 w) gs idx = decayedSum β2 w gs idx := by
  induction gs using List.reverseRecOn with
  | nil => rfl
  | append_singleton gs g ih => rw [adaRun_concat, ih, decayedSum_concat, codeUpd]

end closedForm

end PrecondVerif.SM3
