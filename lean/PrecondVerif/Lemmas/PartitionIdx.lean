/-
Lemmas for the index-level description of `BlockPartitioner.partition` (C06):
`partition` = cartesian product of the per-axis pieces, the `k`-th block is the sub-tensor at
`blockOffsets k` of shape `blockDims k`, the blocks tile the tensor; `partition ∘ merge_partitions = id`; that
`shapes_for_preconditioners` lists the blocks actually produced; the closed forms of offsets and sizes.
-/
import PrecondVerif.Model.ShapesIdx
import PrecondVerif.Lemmas.Partition

namespace PrecondVerif.Shapes

/-- the (offset, size) pairs of a split with ANY size list: `axisPieces` of the model is the case `splitSizes d b`;
`partAxes_range'` is stated for any sizes -/
def offPieces (sizes : List Nat) : List (Nat × Nat) := (offsets sizes 0).zip sizes

theorem split_eq_map {α} (u : Tensor α) (a : Nat) (sizes : List Nat) :
    u.split a sizes = (offPieces sizes).map fun x => u.slice a x.1 x.2 := rfl

theorem axisPieces_eq (d b : Nat) : axisPieces d b = offPieces (splitSizes d b) := rfl

theorem slice_self {α} (u : Tensor α) (a : Nat) : u.slice a 0 (u.shape.getD a 0) = u := by
  cases u
  simp only [Tensor.slice, Nat.add_zero, set_getD_self]

theorem split_singleton {α} (u : Tensor α) (a : Nat) :
    u.split a [u.shape.getD a 0] = [u] := by
  rw [split_eq_map, show offPieces [u.shape.getD a 0] = [(0, u.shape.getD a 0)] from rfl, List.map_singleton, slice_self]

/-- axes whose size list is the whole axis can be left out of the partition loop -/
theorem partAxes_filter {α} (sz : Nat → List Nat) (p : Nat → Bool) :
    ∀ (axes : List Nat) (ts : List (Tensor α)), axes.Nodup →
      (∀ u ∈ ts, ∀ a ∈ axes, p a = false → sz a = [u.shape.getD a 0]) →
      partAxes sz (axes.filter p) ts = partAxes sz axes ts
  | [], ts, _, _ => rfl
  | a :: rest, ts, hnd, h => by
    have hnd' := List.nodup_cons.mp hnd
    by_cases hp : p a = true
    · rw [List.filter_cons_of_pos hp, partAxes_cons, partAxes_cons]
      apply partAxes_filter sz p rest _ hnd'.2
      intro v hv c hc hpc
      obtain ⟨u, hu, off, size, rfl⟩ := mem_flatMap_split hv
      have hca : c ≠ a := fun e => hnd'.1 (e ▸ hc)
      rw [slice_shape_getD u a c off size hca]
      exact h u hu c (by simp [hc]) hpc
    · have hp' : p a = false := by simpa using hp
      rw [List.filter_cons_of_neg (by simpa using hp'), partAxes_cons]
      have hid : (ts.flatMap fun u => u.split a (sz a)) = ts := by
        rw [List.flatMap_congr fun u hu => by rw [h u hu a (by simp) hp', split_singleton],
          List.flatMap_singleton']
      rw [hid]
      exact partAxes_filter sz p rest ts hnd'.2 (fun u hu c hc => h u hu c (by simp [hc]))

theorem cartP_length {β : Type} : ∀ ls : List (List β), (cartP ls).length = prod (ls.map List.length)
  | [] => rfl
  | l :: ls => by
    simp only [cartP, List.map_cons, prod_cons]
    rw [flatMap_length_const _ (prod (ls.map List.length)) l fun x _ => by simp [cartP_length ls]]

theorem cartP_getElem? {β : Type} (d : β) : ∀ (ls : List (List β)) (k : Nat),
    k < prod (ls.map List.length) →
    (cartP ls)[k]? = some (List.zipWith (fun l j => l.getD j d) ls (unravel (ls.map List.length) k))
  | [], k, hk => by
    simp at hk; subst hk; rfl
  | l :: ls, k, hk => by
    simp only [List.map_cons, prod_cons] at hk
    have hpos : 0 < prod (ls.map List.length) := Nat.pos_of_lt_mul_left hk
    have hq : k / prod (ls.map List.length) < l.length := by
      rw [Nat.div_lt_iff_lt_mul hpos]; exact hk
    have hr : k % prod (ls.map List.length) < prod (ls.map List.length) := Nat.mod_lt _ hpos
    simp only [cartP]
    rw [flatMap_getElem?_of_length _ (prod (ls.map List.length)) hpos
      (by intro x; simp [cartP_length])]
    rw [List.getElem?_eq_getElem hq]
    simp only [Option.bind_some, List.getElem?_map, cartP_getElem? d ls _ hr, Option.map_some]
    simp [unravel, List.getD_eq_getElem?_getD, List.getElem?_eq_getElem hq]

theorem cartP_map {β γ : Type} (f : β → γ) : ∀ ls : List (List β),
    (cartP ls).map (List.map f) = cartP (ls.map (List.map f))
  | [] => rfl
  | l :: ls => by
    simp only [cartP, List.map_cons, List.map_flatMap, List.flatMap_map, List.map_map, ← cartP_map f ls]
    -- `List.map f ∘ (x :: ·)` and `(f x :: ·) ∘ List.map f` agree by `List.map_cons`, under the binders
    rfl

theorem cartP_eq_cartesian : ∀ ls : List (List Nat), cartP ls = cartesian ls
  | [] => rfl
  | l :: ls => by simp only [cartP, cartesian, cartP_eq_cartesian ls]

/-- generic-type twin of `cartesian_mem_length`, which stays in the Mathlib-free `Lemmas/Shapes.lean` for `GenBridge` -/
theorem cartP_mem_length {β : Type} : ∀ (ls : List (List β)) (x : List β), x ∈ cartP ls → x.length = ls.length
  | [], x, h => by simp [cartP] at h; simp [h]
  | l :: ls, x, h => by
    simp only [cartP, List.mem_flatMap, List.mem_map] at h
    obtain ⟨a, _, y, hy, rfl⟩ := h
    simp [cartP_mem_length ls y hy]

/-- `range' m n` and not `range n`: after the first axis has been split the remaining axes are cut by `sliceBox u (m + 1)`,
which counts axes from `m + 1` on -/
theorem partAxes_range' {α} (sz : Nat → List Nat) : ∀ (n m : Nat) (ts : List (Tensor α)),
    partAxes sz (List.range' m n) ts =
      ts.flatMap fun u => (cartP ((List.range' m n).map fun a => offPieces (sz a))).map (sliceBox u m)
  | 0, m, ts => by
    simp [partAxes, cartP, sliceBox]
  | n + 1, m, ts => by
    rw [List.range'_succ, partAxes_cons, partAxes_range' sz n (m + 1)]
    simp only [List.map_cons, cartP, split_eq_map, List.flatMap_assoc, List.flatMap_map, List.map_flatMap,
      List.map_map]
    -- what is left is the defining equation of `sliceBox` on a cons, under the binders
    rfl

theorem partition_eq_boxes {α} (t : Tensor α) (b : Nat) :
    partition t b = (cartP (t.shape.map fun d => axisPieces d b)).map (sliceBox t 0) := by
  rw [partition_eq_partAxes]
  have h1 : splitAxes t.shape b =
      (List.range t.shape.length).filter (fun i => decide (0 < b ∧ b < t.shape.getD i 0)) := rfl
  rw [h1, partAxes_filter _ _ _ _ List.nodup_range]
  · rw [List.range_eq_range', partAxes_range']
    simp only [List.flatMap_cons, List.flatMap_nil, List.append_nil]
    rw [← List.range_eq_range']
    rw [range_map_getD t.shape 0 (fun d => offPieces (splitSizes d b))]
    simp only [axisPieces_eq]
  · intro u hu a _ hp
    simp only [List.mem_singleton] at hu
    subst hu
    exact splitSizes_of_not (of_decide_eq_false hp)

theorem sliceBox_shape {α} : ∀ (box : List (Nat × Nat)) (u : Tensor α) (m : Nat),
    m + box.length = u.shape.length → (sliceBox u m box).shape = u.shape.take m ++ box.map (·.2)
  | [], u, m, h => by
    simp only [sliceBox, List.map_nil, List.append_nil]
    rw [List.take_of_length_le (by simp at h; omega)]
  | (o, s) :: box, u, m, h => by
    simp only [sliceBox]
    have hm : m < u.shape.length := by simp at h; omega
    rw [sliceBox_shape box (u.slice m o s) (m + 1) (by simp [Tensor.slice] at h ⊢; omega)]
    simp only [Tensor.slice, List.map_cons]
    rw [List.take_add_one, List.take_set_of_le (Nat.le_refl m)]
    simp [hm]

theorem sliceBox_get {α} : ∀ (box : List (Nat × Nat)) (u : Tensor α) (m : Nat) (idx : List Nat),
    idx.length = m + box.length →
    (sliceBox u m box).get idx = u.get (idx.take m ++ addOff (box.map (·.1)) (idx.drop m))
  | [], u, m, idx, h => by
    simp only [sliceBox, List.map_nil, addOff, List.zipWith_nil_left, List.append_nil]
    rw [List.take_of_length_le (by simp at h; omega)]
  | (o, s) :: box, u, m, idx, h => by
    simp only [sliceBox]
    rw [sliceBox_get box (u.slice m o s) (m + 1) idx (by simp at h ⊢; omega)]
    have hm : m < idx.length := by simp at h; omega
    obtain ⟨A, i, B, rfl, hA⟩ : ∃ A i B, idx = A ++ i :: B ∧ A.length = m :=
      ⟨idx.take m, idx[m], idx.drop (m + 1), by simp, by simp; omega⟩
    subst hA
    simp only [Tensor.slice]
    congr 1
    rw [List.take_length_add_append 1, List.drop_length_add_append 1, List.take_left' rfl, List.drop_left' rfl]
    simp [addOff, List.getD_eq_getElem?_getD, Nat.add_comm]

theorem sliceBox_zero {α} (u : Tensor α) (box : List (Nat × Nat)) (h : box.length = u.shape.length) :
    (sliceBox u 0 box).shape = box.map (·.2) ∧
    ∀ idx : List Nat, idx.length = u.shape.length →
      (sliceBox u 0 box).get idx = u.get (addOff (box.map (·.1)) idx) := by
  refine ⟨by simpa using sliceBox_shape box u 0 (by simpa using h), ?_⟩
  intro idx hi
  simpa using sliceBox_get box u 0 idx (by simp [hi, h])

theorem axisPieces_length (d b : Nat) : (axisPieces d b).length = (splitSizes d b).length := by
  simp [axisPieces, offsets_length]

theorem pieces_grid (shape : List Nat) (b : Nat) :
    (shape.map fun d => axisPieces d b).map List.length = blockGrid shape b := by
  simp [blockGrid, splitAll, axisPieces_length]

theorem axisPieces_map_fst (d b : Nat) : (axisPieces d b).map (·.1) = offsets (splitSizes d b) 0 :=
  List.map_fst_zip (by rw [offsets_length]; exact Nat.le_refl _)

theorem axisPieces_map_snd (d b : Nat) : (axisPieces d b).map (·.2) = splitSizes d b :=
  List.map_snd_zip (by rw [offsets_length]; exact Nat.le_refl _)

theorem blockGrid_length (shape : List Nat) (b : Nat) : (blockGrid shape b).length = shape.length := by
  simp [blockGrid, splitAll]

theorem blockGrid_cons (d : Nat) (ds : List Nat) (b : Nat) :
    blockGrid (d :: ds) b = (splitSizes d b).length :: blockGrid ds b := rfl

/-- `blockOffsets` on per-axis piece numbers `kc` instead of the block number, which only enters through
`blockCoords` (its row-major digits); likewise `coordDims` for `blockDims` and `locateAxes` for `locateBlock` -/
def coordOffsets (shape : List Nat) (b : Nat) (kc : List Nat) : List Nat :=
  List.zipWith (fun d ka => (offsets (splitSizes d b) 0).getD ka 0) shape kc

def coordDims (shape : List Nat) (b : Nat) (kc : List Nat) : List Nat :=
  List.zipWith (fun d ka => (splitSizes d b).getD ka 0) shape kc

/-- per axis, the piece an index falls in and its position inside the piece (`locateBlock` before `ravel`) -/
def locateAxes (shape : List Nat) (b : Nat) (idx : List Nat) : List (Nat × Nat) :=
  List.zipWith (fun d i => locate (splitSizes d b) i) shape idx

theorem coordOffsets_cons (d : Nat) (ds : List Nat) (b k : Nat) (ks : List Nat) :
    coordOffsets (d :: ds) b (k :: ks) = (offsets (splitSizes d b) 0).getD k 0 :: coordOffsets ds b ks := rfl

theorem coordDims_cons (d : Nat) (ds : List Nat) (b k : Nat) (ks : List Nat) :
    coordDims (d :: ds) b (k :: ks) = (splitSizes d b).getD k 0 :: coordDims ds b ks := rfl

theorem locateAxes_cons (d : Nat) (ds : List Nat) (b i : Nat) (is : List Nat) :
    locateAxes (d :: ds) b (i :: is) = locate (splitSizes d b) i :: locateAxes ds b is := rfl

theorem blockOffsets_eq (shape : List Nat) (b k : Nat) :
    blockOffsets shape b k = coordOffsets shape b (blockCoords shape b k) := rfl

theorem blockDims_eq (shape : List Nat) (b k : Nat) :
    blockDims shape b k = coordDims shape b (blockCoords shape b k) := rfl

theorem locateBlock_eq (shape : List Nat) (b : Nat) (idx : List Nat) :
    locateBlock shape b idx =
      (ravel (blockGrid shape b) ((locateAxes shape b idx).map (·.1)), (locateAxes shape b idx).map (·.2)) := rfl

/-- the box with per-axis piece numbers `kc`: one (offset, size) pair per axis -/
def boxAt (shape : List Nat) (b : Nat) (kc : List Nat) : List (Nat × Nat) :=
  List.zipWith (fun l j => l.getD j ((0, 0) : Nat × Nat)) (shape.map fun d => axisPieces d b) kc

theorem boxAt_map_fst (b : Nat) (shape kc : List Nat) : (boxAt shape b kc).map (·.1) = coordOffsets shape b kc := by
  simp only [boxAt, coordOffsets, List.map_zipWith, List.zipWith_map_left, ← axisPieces_map_fst,
    getD_map (·.1) _ _ ((0, 0) : Nat × Nat)]

theorem boxAt_map_snd (b : Nat) (shape kc : List Nat) : (boxAt shape b kc).map (·.2) = coordDims shape b kc := by
  simp only [boxAt, coordDims, List.map_zipWith, List.zipWith_map_left, ← axisPieces_map_snd,
    getD_map (·.2) _ _ ((0, 0) : Nat × Nat)]

theorem partition_length {α} (t : Tensor α) (b : Nat) :
    (partition t b).length = prod (blockGrid t.shape b) := by
  rw [partition_eq_boxes, List.length_map, cartP_length, pieces_grid]

theorem blockDims_length (shape : List Nat) (b k : Nat) : (blockDims shape b k).length = shape.length := by
  simp [blockDims, blockCoords, unravel_length_eq, blockGrid_length]

theorem partition_getElem {α} (t : Tensor α) (b k : Nat) (hk : k < (partition t b).length) :
    (partition t b)[k].shape = blockDims t.shape b k ∧
    ∀ idx : List Nat, idx.length = t.shape.length →
      (partition t b)[k].get idx = t.get (addOff (blockOffsets t.shape b k) idx) := by
  have hk' : k < prod (blockGrid t.shape b) := partition_length t b ▸ hk
  -- the `k`-th element of the cartesian product of the per-axis pieces is the box at the grid coordinates of `k`
  have e : (partition t b)[k]? = some (sliceBox t 0 (boxAt t.shape b (blockCoords t.shape b k))) := by
    rw [partition_eq_boxes, List.getElem?_map,
      cartP_getElem? ((0, 0) : Nat × Nat) _ k (by rw [pieces_grid]; exact hk'), pieces_grid, Option.map_some,
      blockCoords, boxAt]
  obtain ⟨_, e⟩ := List.getElem?_eq_some_iff.mp e
  obtain ⟨h1, h2⟩ := sliceBox_zero t (boxAt t.shape b (blockCoords t.shape b k))
    (by simp [boxAt, blockCoords, unravel_length_eq, blockGrid_length])
  rw [e]
  refine ⟨?_, fun idx hi => ?_⟩
  · rw [h1, boxAt_map_snd, blockDims_eq]
  · rw [h2 idx hi, boxAt_map_fst, blockOffsets_eq]

theorem partition_shapes {α} (t : Tensor α) (b : Nat) :
    (partition t b).map (·.shape) = cartesian (splitAll t.shape b) := by
  rw [partition_eq_boxes, List.map_map]
  have : ∀ box ∈ cartP (t.shape.map fun d => axisPieces d b),
      ((fun u : Tensor α => u.shape) ∘ sliceBox t 0) box = box.map (·.2) := by
    intro box hb
    have hl := cartP_mem_length _ box hb
    exact (sliceBox_zero t box (by simpa using hl)).1
  rw [List.map_congr_left this, cartP_map, cartP_eq_cartesian]
  congr 1
  simp only [splitAll, List.map_map]
  apply List.map_congr_left
  intro d _
  exact axisPieces_map_snd d b

/-- every in-bounds entry has a block and a place in it: `(kc, j) ↦ coordOffsets kc + j` is onto, with `locateAxes` a
right inverse -/
theorem tile_exists (b : Nat) (shape idx : List Nat) (h : inBounds shape idx) :
    inBounds (blockGrid shape b) ((locateAxes shape b idx).map (·.1)) ∧
    inBounds (coordDims shape b ((locateAxes shape b idx).map (·.1))) ((locateAxes shape b idx).map (·.2)) ∧
    addOff (coordOffsets shape b ((locateAxes shape b idx).map (·.1))) ((locateAxes shape b idx).map (·.2)) = idx := by
  induction h using inBounds_induction with
  | nil => exact ⟨trivial, trivial, rfl⟩
  | cons d ds i is hi _ ih =>
    obtain ⟨ih1, ih2, ih3⟩ := ih
    obtain ⟨l1, l2, l3⟩ := locate_spec (splitSizes d b) i (by rw [splitSizes_sum]; exact hi)
    rw [locateAxes_cons, List.map_cons, List.map_cons, blockGrid_cons, coordDims_cons, coordOffsets_cons, addOff_cons,
      l3, ih3]
    exact ⟨⟨l1, ih1⟩, ⟨l2, ih2⟩, rfl⟩

/-- … and `locateAxes` is a left inverse too (`locateBlock_spec` draws uniqueness from it), and the entry lies inside the
tensor -/
theorem tile_unique (b : Nat) : ∀ (shape kc j : List Nat), inBounds (blockGrid shape b) kc →
    inBounds (coordDims shape b kc) j →
    (locateAxes shape b (addOff (coordOffsets shape b kc) j)).map (·.1) = kc ∧
    (locateAxes shape b (addOff (coordOffsets shape b kc) j)).map (·.2) = j ∧
    inBounds shape (addOff (coordOffsets shape b kc) j)
  | [], [], [], _, _ => ⟨rfl, rfl, trivial⟩
  | [], [], _ :: _, _, h => h.elim
  | [], _ :: _, _, h, _ => h.elim
  | _ :: _, [], _, h, _ => h.elim
  | _ :: _, _ :: _, [], _, h => h.elim
  | d :: ds, k :: ks, j :: js, h1, h2 => by
    rw [blockGrid_cons] at h1
    rw [coordDims_cons] at h2
    obtain ⟨i1, i2, i3⟩ := tile_unique b ds ks js h1.2 h2.2
    obtain ⟨hl, hlt⟩ := locate_offsets (splitSizes d b) k j h1.1 h2.1
    rw [splitSizes_sum] at hlt
    rw [coordOffsets_cons, addOff_cons, locateAxes_cons, List.map_cons, List.map_cons, hl, i1, i2]
    exact ⟨rfl, rfl, hlt, i3⟩

theorem locateBlock_spec (shape : List Nat) (b : Nat) (idx : List Nat) (hi : inBounds shape idx) :
    (locateBlock shape b idx).1 < prod (blockGrid shape b) ∧
    inBounds (blockDims shape b (locateBlock shape b idx).1) (locateBlock shape b idx).2 ∧
    addOff (blockOffsets shape b (locateBlock shape b idx).1) (locateBlock shape b idx).2 = idx ∧
    ∀ k j, k < prod (blockGrid shape b) → inBounds (blockDims shape b k) j →
      addOff (blockOffsets shape b k) j = idx → k = (locateBlock shape b idx).1 ∧ j = (locateBlock shape b idx).2 := by
  obtain ⟨e1, e2, e3⟩ := tile_exists b shape idx hi
  have hc : blockCoords shape b (locateBlock shape b idx).1 = (locateAxes shape b idx).map (·.1) :=
    unravel_ravel _ _ e1
  refine ⟨ravel_lt _ _ e1, ?_, ?_, ?_⟩
  · rw [blockDims_eq, hc]; exact e2
  · rw [blockOffsets_eq, hc]; exact e3
  · intro k j hk hj hidx
    obtain ⟨u1, u2, _⟩ := tile_unique b shape (blockCoords shape b k) j (unravel_inBounds _ _ hk) hj
    rw [← blockOffsets_eq, hidx] at u1 u2
    refine ⟨?_, u2.symm⟩
    rw [locateBlock_eq, u1]
    exact (ravel_unravel _ _ hk).symm

theorem block_entry_inBounds (shape : List Nat) (b k : Nat) (j : List Nat) (hk : k < prod (blockGrid shape b))
    (hj : inBounds (blockDims shape b k) j) : inBounds shape (addOff (blockOffsets shape b k) j) :=
  (tile_unique b shape (blockCoords shape b k) j (unravel_inBounds _ _ hk) hj).2.2

/-- a list whose `k`-th member has shape `blockDims k` and reads `t` at `blockOffsets k + idx` is, up to `Eqv`,
`partition t b` -/
theorem forall₂_eqv_partition {α} (t : Tensor α) (b : Nat) (l : List (Tensor α))
    (hlen : l.length = (partition t b).length)
    (h : ∀ k (hk : k < l.length), l[k].shape = blockDims t.shape b k ∧
      ∀ idx, inBounds (blockDims t.shape b k) idx → l[k].get idx = t.get (addOff (blockOffsets t.shape b k) idx)) :
    List.Forall₂ Tensor.Eqv l (partition t b) := by
  rw [List.forall₂_iff_get]
  refine ⟨hlen, fun k hk1 hk2 => ?_⟩
  obtain ⟨s, g⟩ := partition_getElem t b k hk2
  obtain ⟨s', g'⟩ := h k hk1
  simp only [List.get_eq_getElem]
  refine ⟨by rw [s', s], fun idx hi => ?_⟩
  rw [s'] at hi
  rw [g' idx hi, g idx (by rw [inBounds_length hi, blockDims_length])]

theorem partition_congr {α} (t u : Tensor α) (b : Nat) (h : t.Eqv u) :
    List.Forall₂ Tensor.Eqv (partition t b) (partition u b) :=
  forall₂_eqv_partition u b _ (by rw [partition_length, partition_length, h.1]) fun k hk => by
    obtain ⟨s, g⟩ := partition_getElem t b k hk
    refine ⟨by rw [s, h.1], fun idx hi => ?_⟩
    rw [← h.1] at hi ⊢
    rw [g idx (by rw [inBounds_length hi, blockDims_length])]
    exact h.2 _ (block_entry_inBounds t.shape b k idx (partition_length t b ▸ hk) hi)

theorem cartesian_splitAll_getElem? (shape : List Nat) (b k : Nat) (hk : k < prod (blockGrid shape b)) :
    (cartesian (splitAll shape b))[k]? = some (blockDims shape b k) := by
  rw [← cartP_eq_cartesian, cartP_getElem? 0 _ k hk]
  rw [blockDims, blockCoords, splitAll, List.zipWith_map_left, blockGrid, splitAll]

theorem cartesian_splitAll_length (shape : List Nat) (b : Nat) :
    (cartesian (splitAll shape b)).length = prod (blockGrid shape b) := by
  rw [← cartP_eq_cartesian, cartP_length]; rfl

/-- the tensor assembled from a list of well-shaped blocks, entry by entry -/
def assembleParts {α} [Inhabited α] (shape : List Nat) (b : Nat) (parts : List (Tensor α)) : Tensor α :=
  { shape := shape
    get := fun idx => (parts.getD (locateBlock shape b idx).1 ⟨[], fun _ => default⟩).get (locateBlock shape b idx).2 }

theorem partition_assembleParts {α} [Inhabited α] (shape : List Nat) (b : Nat) (parts : List (Tensor α))
    (hs : parts.map (·.shape) = cartesian (splitAll shape b)) :
    List.Forall₂ Tensor.Eqv parts (partition (assembleParts shape b parts) b) := by
  have hlen : parts.length = prod (blockGrid shape b) := by
    rw [← cartesian_splitAll_length, ← hs, List.length_map]
  refine forall₂_eqv_partition _ b parts (by rw [partition_length]; exact hlen) fun k hk => ?_
  have hk' : k < prod (blockGrid shape b) := hlen ▸ hk
  have hsk : parts[k].shape = blockDims shape b k := by
    have : (parts.map (·.shape))[k]? = some (blockDims shape b k) := hs ▸ cartesian_splitAll_getElem? shape b k hk'
    simpa [List.getElem?_map, List.getElem?_eq_getElem hk] using this
  refine ⟨hsk, fun idx hi => ?_⟩
  -- the entry of block `k` at `idx` is located back in block `k` at `idx`
  obtain ⟨_, _, _, huniq⟩ := locateBlock_spec shape b _ (block_entry_inBounds shape b k idx hk' hi)
  obtain ⟨hk'', hj'⟩ := huniq k idx hk' hi rfl
  simp only [assembleParts]
  rw [← hk'', ← hj', List.getD_eq_getElem?_getD, List.getElem?_eq_getElem hk, Option.getD_some]

/-- `partition ∘ merge_partitions = id` on blocks of the announced shapes: they are the partition of `assembleParts`, so
they merge into something entry-wise equal to it, whose partition they therefore are -/
theorem partition_mergePartitions {α} [Inhabited α] (shape : List Nat) (b : Nat) (parts : List (Tensor α))
    (hs : parts.map (·.shape) = cartesian (splitAll shape b)) :
    ∃ u, mergePartitions shape b parts = some u ∧ u.shape = shape ∧
      List.Forall₂ Tensor.Eqv (partition u b) parts := by
  have h1 := partition_assembleParts shape b parts hs
  obtain ⟨u, hu, huv⟩ := mergePartitions_of_eqv (assembleParts shape b parts) b parts h1
  exact ⟨u, hu, huv.1, forall₂_eqv_trans (partition_congr u _ b huv) (forall₂_eqv_symm h1)⟩

theorem shapesForPreconditioners_eq_blocks {α} (pt : PType) (r : Nat) (t : Tensor α) (b : Nat) :
    shapesForPreconditioners pt r t.shape b =
      (partition t b).flatMap fun blk => (blockPrecondDims pt blk.shape).map fun d => (d, precondDim r d) := by
  unfold shapesForPreconditioners
  rw [← partition_shapes t b, List.flatMap_map]

theorem partition_shape_length {α} (t : Tensor α) (b : Nat) :
    ∀ blk ∈ partition t b, blk.shape.length = t.shape.length := by
  intro blk hb
  have : blk.shape ∈ (partition t b).map (·.shape) := List.mem_map_of_mem hb
  rw [partition_shapes, ← cartP_eq_cartesian] at this
  rw [cartP_mem_length _ _ this]; simp [splitAll]

theorem shapesForPreconditioners_length {α} (pt : PType) (r : Nat) (t : Tensor α) (b : Nat) :
    (shapesForPreconditioners pt r t.shape b).length =
      (partition t b).length * numPreconditioned pt t.shape.length := by
  rw [shapesForPreconditioners_eq_blocks]
  exact flatMap_length_const _ _ _ fun blk hblk => by
    rw [List.length_map, blockPrecondDims_length, partition_shape_length t b blk hblk]

/-! ### closed forms: the per-axis block offsets are `j * b` (prefix sums of `splitSizes`) -/

theorem axis_offset_closed (d b j : Nat) (hj : j < (splitSizes d b).length) :
    (offsets (splitSizes d b) 0).getD j 0 = j * b := by
  by_cases h : 0 < b ∧ b < d
  · rw [splitSizes_length, if_pos h] at hj
    rw [splitSizes_of_split h]
    rw [offsets_replicate_concat, List.getD_eq_getElem?_getD, List.getElem?_map, List.getElem?_range hj]
    simp
  · rw [splitSizes_of_not h] at hj ⊢
    obtain rfl : j = 0 := by simpa using hj
    simp [offsets]

theorem axis_size_closed (d b j : Nat) (hj : j < (splitSizes d b).length) :
    (splitSizes d b).getD j 0 = (if 0 < b ∧ b < d then min ((j + 1) * b) d else d) - j * b := by
  by_cases h : 0 < b ∧ b < d
  · rw [splitSizes_length, if_pos h] at hj
    have hrem := split_rem_bounds h
    rw [if_pos h, splitSizes_of_split h, List.getD_eq_getElem?_getD, List.getElem?_append]
    simp only [List.length_replicate]
    by_cases hjn : j < (d - 1) / b
    · have h1 : (j + 1) * b ≤ (d - 1) / b * b := Nat.mul_le_mul_right _ hjn
      rw [if_pos hjn, Nat.min_eq_left (by omega)]
      simp [hjn, Nat.add_mul]
    · obtain rfl : j = (d - 1) / b := by omega
      rw [if_neg hjn, Nat.min_eq_right (by rw [Nat.add_mul]; omega)]
      simp
  · rw [splitSizes_of_not h] at hj ⊢
    obtain rfl : j = 0 := by simpa using hj
    simp [h]

theorem coord_closed (b : Nat) : ∀ (shape kc : List Nat), inBounds (blockGrid shape b) kc →
    coordOffsets shape b kc = kc.map (· * b) ∧
    coordDims shape b kc =
      List.zipWith (fun d ka => (if 0 < b ∧ b < d then min ((ka + 1) * b) d else d) - ka * b) shape kc
  | [], [], _ => ⟨rfl, rfl⟩
  | [], _ :: _, h => h.elim
  | _ :: _, [], h => h.elim
  | d :: ds, k :: ks, h => by
    rw [blockGrid_cons] at h
    obtain ⟨i1, i2⟩ := coord_closed b ds ks h.2
    rw [coordOffsets_cons, coordDims_cons, i1, i2, axis_offset_closed d b k h.1, axis_size_closed d b k h.1]
    exact ⟨rfl, rfl⟩

theorem blockOffsets_closed (shape : List Nat) (b k : Nat) (hk : k < prod (blockGrid shape b)) :
    blockOffsets shape b k = (blockCoords shape b k).map (· * b) ∧
    blockDims shape b k =
      List.zipWith (fun d ka => (if 0 < b ∧ b < d then min ((ka + 1) * b) d else d) - ka * b) shape
        (blockCoords shape b k) :=
  coord_closed b shape (blockCoords shape b k) (unravel_inBounds _ _ hk)

end PrecondVerif.Shapes
