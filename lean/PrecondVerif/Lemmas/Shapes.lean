/-
Lemmas about the definitions of `Model/Shapes.lean` that need neither `partition` nor `blockify`: first the few `List.range` /
`flatMap` / `getD` facts the files below share, then what each shape function computes, in the order of the model's sections
(products and row-major indices, `merge_small_dims`, `BlockPartitioner` sizes, `Preconditioner` bookkeeping — slots, selected
dims, `precondDim` —, the Tearfree reshaper), last `addOff_cons` of `Model/ShapesIdx.lean`, which `PartitionIdx.lean` and
`BlockifyIdx.lean` both use. Core Lean only: `GenBridge.lean` and `Layout.lean` import this file and say so of themselves.
-/
import PrecondVerif.Model.Shapes
import PrecondVerif.Model.ShapesIdx

namespace PrecondVerif.Shapes

theorem range_mul (s m : Nat) :
    List.range (s * m) = (List.range s).flatMap fun i => (List.range m).map fun j => i * m + j := by
  induction s with
  | zero => simp
  | succ s ih =>
    rw [Nat.succ_mul, List.range_add, ih, List.range_succ, List.flatMap_append]
    simp

theorem range_map_getD {β γ : Type} (l : List β) (d : β) (f : β → γ) :
    (List.range l.length).map (fun a => f (l.getD a d)) = l.map f := by
  apply List.ext_getElem
  · simp
  · intro i h1 h2
    simp at h1
    simp [List.getD_eq_getElem?_getD, h1]

theorem range_map_getD_self {β : Type} (l : List β) (d : β) : (List.range l.length).map (fun k => l.getD k d) = l := by
  simpa using range_map_getD l d id

theorem flatMap_getElem?_of_length {β γ : Type} (f : β → List γ) (n : Nat) (hn : 0 < n)
    (hf : ∀ x, (f x).length = n) : ∀ (l : List β) (k : Nat),
    (l.flatMap f)[k]? = (l[k / n]?).bind fun x => (f x)[k % n]?
  | [], k => by simp
  | x :: l, k => by
    rw [List.flatMap_cons, List.getElem?_append]
    by_cases hk : k < n
    · rw [if_pos (by rw [hf]; exact hk), Nat.div_eq_of_lt hk, Nat.mod_eq_of_lt hk]
      simp
    · rw [if_neg (by rw [hf]; exact hk), hf, flatMap_getElem?_of_length f n hn hf l (k - n)]
      have hk' : n ≤ k := by omega
      rw [Nat.div_eq_sub_div hn hk', Nat.mod_eq_sub_mod hk']
      simp

theorem flatMap_length_const {β γ : Type} (f : β → List γ) (n : Nat) (l : List β)
    (hf : ∀ x ∈ l, (f x).length = n) : (l.flatMap f).length = l.length * n := by
  rw [List.length_flatMap, List.map_congr_left hf, List.map_const', List.sum_replicate_nat]

theorem getD_le_of_forall_mem {l : List Nat} {n : Nat} (h : ∀ s ∈ l, s ≤ n) (k : Nat) : l.getD k 0 ≤ n := by
  rw [List.getD_eq_getElem?_getD]
  cases h' : l[k]? with
  | none => exact Nat.zero_le n
  | some s => exact h s (List.mem_of_getElem? h')

theorem getD_map {β γ : Type} (f : β → γ) (l : List β) (j : Nat) (d : β) :
    (l.map f).getD j (f d) = f (l.getD j d) := by
  simp only [List.getD_eq_getElem?_getD, List.getElem?_map]
  cases l[j]? <;> rfl

theorem set_getD_self (l : List Nat) (a : Nat) : l.set a (l.getD a 0) = l := by
  by_cases h : a < l.length
  · simp [List.getD_eq_getElem?_getD, h]
  · rw [List.set_eq_of_length_le (by omega)]

theorem prod_pos {l : List Nat} (h : ∀ d ∈ l, 1 ≤ d) : 1 ≤ prod l := by
  induction l with
  | nil => simp
  | cons a l ih =>
    simp only [prod_cons]
    exact Nat.mul_le_mul (h a (by simp)) (ih fun d hd => h d (by simp [hd]))

theorem prod_append (l1 l2 : List Nat) : prod (l1 ++ l2) = prod l1 * prod l2 := by
  induction l1 with
  | nil => simp
  | cons a l ih => simp [ih, Nat.mul_assoc]

theorem prod_replicate_one (n : Nat) : prod (List.replicate n 1) = 1 := by
  induction n with
  | zero => rfl
  | succ n ih => simp [List.replicate_succ, ih]

theorem prod_all_one {l : List Nat} (h : l.all (· == 1) = true) : prod l = 1 := by
  rw [List.eq_replicate_iff.mpr ⟨rfl, fun b hb => beq_iff_eq.mp (List.all_eq_true.mp h b hb)⟩, prod_replicate_one]

theorem mul_add_lt_mul (u n b w : Nat) (hu : u < n) (hw : w < b) : u * b + w < n * b :=
  calc u * b + w < (u + 1) * b := by rw [Nat.succ_mul]; omega
    _ ≤ n * b := Nat.mul_le_mul_right _ hu

theorem divmod_of_lt (u w b : Nat) (hw : w < b) : (u * b + w) / b = u ∧ (u * b + w) % b = w :=
  ⟨by rw [Nat.add_comm, Nat.add_mul_div_right _ _ (by omega), Nat.div_eq_of_lt hw, Nat.zero_add],
    Nat.mul_add_mod_of_lt hw⟩

/-- induction along the two lists of an in-bounds pair -/
theorem inBounds_induction {motive : ∀ shape idx : List Nat, inBounds shape idx → Prop} (nil : motive [] [] trivial)
    (cons : ∀ s ss i is (hi : i < s) (h : inBounds ss is), motive ss is h → motive (s :: ss) (i :: is) ⟨hi, h⟩) :
    ∀ {shape idx : List Nat} (h : inBounds shape idx), motive shape idx h
  | [], [], _ => nil
  | s :: ss, i :: is, h => cons s ss i is h.1 h.2 (inBounds_induction nil cons h.2)
  | [], _ :: _, h => h.elim
  | _ :: _, [], h => h.elim

theorem ravel_lt (shape idx : List Nat) (h : inBounds shape idx) : ravel shape idx < prod shape := by
  induction h using inBounds_induction with
  | nil => exact Nat.one_pos
  | cons s ss i is hi _ ih => exact mul_add_lt_mul i s _ _ hi ih

theorem unravel_ravel (shape idx : List Nat) (h : inBounds shape idx) :
    unravel shape (ravel shape idx) = idx := by
  induction h using inBounds_induction with
  | nil => rfl
  | cons s ss i is _ h ih =>
    obtain ⟨h1, h2⟩ := divmod_of_lt i (ravel ss is) (prod ss) (ravel_lt ss is h)
    simp only [ravel, unravel, h1, h2, ih]

theorem unravel_length_eq : ∀ (s : List Nat) (k : Nat), (unravel s k).length = s.length
  | [], _ => rfl
  | _ :: ss, k => by simp [unravel, unravel_length_eq ss]

theorem unravel_inBounds (shape : List Nat) (k : Nat) (h : k < prod shape) :
    inBounds shape (unravel shape k) := by
  induction shape generalizing k with
  | nil => simp [unravel, inBounds]
  | cons s ss ih =>
    have hpos : 0 < prod ss := Nat.pos_of_lt_mul_left h
    exact ⟨(Nat.div_lt_iff_lt_mul hpos).mpr h, ih _ (Nat.mod_lt _ hpos)⟩

theorem ravel_unravel (shape : List Nat) (k : Nat) (h : k < prod shape) :
    ravel shape (unravel shape k) = k := by
  induction shape generalizing k with
  | nil => simp [prod] at h; simp [ravel, h]
  | cons s ss ih =>
    simp only [unravel, ravel, ih _ (Nat.mod_lt _ (Nat.pos_of_lt_mul_left h))]
    exact Nat.div_add_mod' k (prod ss)

theorem inBounds_length {shape idx : List Nat} (h : inBounds shape idx) :
    idx.length = shape.length := by
  induction h using inBounds_induction with
  | nil => rfl
  | cons s ss i is _ _ ih => simp [ih]

theorem inBounds_getD {shape idx : List Nat} (h : inBounds shape idx) (a : Nat)
    (ha : a < shape.length) : idx.getD a 0 < shape.getD a 0 := by
  induction h using inBounds_induction generalizing a with
  | nil => simp at ha
  | cons s ss i is hi _ ih =>
    cases a with
    | zero => simpa using hi
    | succ a => simpa using ih a (by simpa using ha)

theorem inBounds_set {shape idx : List Nat} (h : inBounds shape idx) (a v w : Nat)
    (hv : v < w) : inBounds (shape.set a w) (idx.set a v) := by
  induction h using inBounds_induction generalizing a with
  | nil => trivial
  | cons s ss i is hi h ih =>
    cases a with
    | zero => exact ⟨hv, h⟩
    | succ a => exact ⟨hi, ih a⟩

theorem inBounds_pos {shape idx : List Nat} (h : inBounds shape idx) : ∀ d ∈ shape, 1 ≤ d := by
  induction h using inBounds_induction with
  | nil => simp
  | cons s ss i is hi _ ih => exact List.forall_mem_cons.mpr ⟨Nat.one_le_of_lt hi, ih⟩

theorem lt2_of_inBounds (shape idx : List Nat) (h : inBounds shape idx) : lt2 idx shape = true := by
  induction h using inBounds_induction with
  | nil => rfl
  | cons s ss i is hi _ ih => simp [lt2, hi, ih]

theorem allIdx_map_ravel (shape : List Nat) : (allIdx shape).map (ravel shape) = List.range (prod shape) := by
  induction shape with
  | nil => rfl
  | cons s ss ih =>
    rw [prod_cons, range_mul]
    simp only [allIdx, List.map_flatMap, List.map_map]
    congr 1
    funext i
    rw [← ih, List.map_map]
    apply List.map_congr_left
    intro is _
    simp [ravel]

theorem allIdx_map_comp_ravel {β : Type} (shape : List Nat) (f : Nat → β) :
    (allIdx shape).map (fun idx => f (ravel shape idx)) = (List.range (prod shape)).map f := by
  rw [← allIdx_map_ravel, List.map_map]; rfl

theorem allIdx_length (s : List Nat) : (allIdx s).length = prod s := by
  simpa using congrArg List.length (allIdx_map_ravel s)

theorem allIdx_inBounds (shape : List Nat) : ∀ idx ∈ allIdx shape, inBounds shape idx := by
  induction shape with
  | nil => intro idx h; simp [allIdx] at h; subst h; trivial
  | cons s ss ih =>
    intro idx h
    simp only [allIdx, List.mem_flatMap, List.mem_range, List.mem_map] at h
    obtain ⟨i, hi, is, his, rfl⟩ := h
    exact ⟨hi, ih is his⟩

/-- the `ravel idx`-th multi-index is `idx`: `allIdx.map ravel = range` and `unravel` inverts `ravel` -/
theorem allIdx_getElem_ravel (shape idx : List Nat) (h : inBounds shape idx) :
    (allIdx shape)[ravel shape idx]? = some idx := by
  have h1 : ((allIdx shape).map (ravel shape))[ravel shape idx]? = some (ravel shape idx) := by
    rw [allIdx_map_ravel, List.getElem?_range (ravel_lt shape idx h)]
  rw [List.getElem?_map] at h1
  obtain ⟨j, hj, e⟩ := Option.map_eq_some_iff.mp h1
  rw [hj, ← unravel_ravel shape j (allIdx_inBounds _ _ (List.mem_of_getElem? hj)), e, unravel_ravel shape idx h]

theorem flat_congr {α : Type} {t u : Tensor α} (hs : t.shape = u.shape)
    (h : ∀ idx, inBounds t.shape idx → t.get idx = u.get idx) : t.flat = u.flat := by
  unfold Tensor.flat
  rw [← hs]
  exact List.map_congr_left fun idx hidx => h idx (allIdx_inBounds _ idx hidx)

theorem mergeGo_prod (m : Nat) (ds : List Nat) (p : Nat) (hp : 1 ≤ p) (h : ∀ d ∈ ds, 1 ≤ d) :
    prod (mergeGo m ds p) = p * prod ds := by
  fun_induction mergeGo m ds p with
  | case1 p hp1 => simp
  | case2 p hp1 => simp; omega
  | case3 d ds p _ ih =>
    rw [ih (Nat.mul_le_mul hp (h d (by simp))) fun x hx => h x (by simp [hx])]; simp [Nat.mul_assoc]
  | case4 d ds p _ _ ih => simp [ih (h d (by simp)) fun x hx => h x (by simp [hx])]
  | case5 d ds p _ hp1 ih =>
    obtain rfl : p = 1 := by omega
    simp [ih (h d (by simp)) fun x hx => h x (by simp [hx])]

theorem mergeSmallDims_of_ones {shape : List Nat} (m : Nat) (h : shape ≠ [] ∧ shape.all (· == 1) = true) :
    mergeSmallDims shape m = [1] := by
  unfold mergeSmallDims; rw [if_pos h]

theorem mergeSmallDims_of_not {shape : List Nat} (m : Nat) (h : ¬ (shape ≠ [] ∧ shape.all (· == 1) = true)) :
    mergeSmallDims shape m = mergeGo m shape 1 := by
  unfold mergeSmallDims; rw [if_neg h]

theorem mergeSmallDims_prod (shape : List Nat) (m : Nat) (h : ∀ d ∈ shape, 1 ≤ d) :
    prod (mergeSmallDims shape m) = prod shape := by
  by_cases hc : shape ≠ [] ∧ shape.all (· == 1) = true
  · simp [mergeSmallDims_of_ones m hc, prod_all_one hc.2]
  · rw [mergeSmallDims_of_not m hc, mergeGo_prod m shape 1 (Nat.le_refl 1) h, Nat.one_mul]

/-- every output of the merge loop respects the limit or is one of the input dimensions (`S`); the running
product `p` is such a dimension, or below the limit, or still 1 -/
theorem mergeGo_mem (m : Nat) (S : List Nat) (ds : List Nat) (p : Nat)
    (hp : p ≤ m ∨ p ∈ S ∨ p = 1) (h : ∀ d ∈ ds, d ∈ S) :
    ∀ x ∈ mergeGo m ds p, x ≤ m ∨ x ∈ S := by
  have out : 1 < p → p ≤ m ∨ p ∈ S := fun h1 => by
    rcases hp with hp | hp | hp
    · exact Or.inl hp
    · exact Or.inr hp
    · omega
  fun_induction mergeGo m ds p with
  | case1 p hp1 => simpa using out hp1
  | case2 p hp1 => simp
  | case3 d ds p hle ih => exact ih (Or.inl hle) (fun x hx => h x (by simp [hx])) (fun _ => Or.inl hle)
  | case4 d ds p _ hp1 ih =>
    have hd : d ∈ S := h d (by simp)
    simpa using ⟨out hp1, ih (Or.inr (Or.inl hd)) (fun x hx => h x (by simp [hx])) (fun _ => Or.inr hd)⟩
  | case5 d ds p _ _ ih =>
    have hd : d ∈ S := h d (by simp)
    exact ih (Or.inr (Or.inl hd)) (fun x hx => h x (by simp [hx])) (fun _ => Or.inr hd)

theorem mergeGo_gt_one (m : Nat) (ds : List Nat) (p : Nat) :
    ∀ x ∈ mergeGo m ds p, 1 < x := by
  fun_induction mergeGo m ds p with
  | case1 p hp1 => simpa using hp1
  | case2 p hp1 => simp
  | case3 d ds p _ ih => exact ih
  | case4 d ds p _ hp1 ih => simpa using ⟨hp1, ih⟩
  | case5 d ds p _ _ ih => exact ih

theorem mergeSmallDims_pos (shape : List Nat) (m : Nat) : ∀ d ∈ mergeSmallDims shape m, 0 < d := by
  intro d hd
  by_cases hc : shape ≠ [] ∧ shape.all (· == 1) = true
  · rw [mergeSmallDims_of_ones m hc, List.mem_singleton] at hd
    omega
  · rw [mergeSmallDims_of_not m hc] at hd
    have := mergeGo_gt_one m shape 1 d hd
    omega

theorem splitSizes_of_split {d b : Nat} (h : 0 < b ∧ b < d) :
    splitSizes d b = List.replicate ((d - 1) / b) b ++ [d - (d - 1) / b * b] := by
  unfold splitSizes; rw [if_pos h]

theorem splitSizes_of_not {d b : Nat} (h : ¬ (0 < b ∧ b < d)) : splitSizes d b = [d] := by
  unfold splitSizes; rw [if_neg h]

/-- the last piece of a split axis: what `(d-1)/b` full blocks leave is between 1 and `b` -/
theorem split_rem_bounds {d b : Nat} (h : 0 < b ∧ b < d) : (d - 1) / b * b < d ∧ d - (d - 1) / b * b ≤ b := by
  have h1 := Nat.div_mul_le_self (d - 1) b
  have h2 := Nat.lt_div_mul_add h.1 (a := d - 1)
  omega

theorem splitSizes_sum (d b : Nat) : (splitSizes d b).sum = d := by
  by_cases h : 0 < b ∧ b < d
  · have := split_rem_bounds h
    simp only [splitSizes_of_split h, List.sum_append, List.sum_replicate_nat, List.sum_cons, List.sum_nil]
    omega
  · simp [splitSizes_of_not h]

theorem splitSizes_pos (d b : Nat) (hd : 1 ≤ d) : ∀ s ∈ splitSizes d b, 1 ≤ s := by
  intro s hs
  by_cases h : 0 < b ∧ b < d
  · have := split_rem_bounds h
    simp only [splitSizes_of_split h, List.mem_append, List.mem_replicate, List.mem_singleton] at hs
    omega
  · simp only [splitSizes_of_not h, List.mem_singleton] at hs
    omega

theorem splitSizes_length (d b : Nat) :
    (splitSizes d b).length = if 0 < b ∧ b < d then (d - 1) / b + 1 else 1 := by
  split
  · rename_i h; simp [splitSizes_of_split h]
  · rename_i h; simp [splitSizes_of_not h]

theorem offsets_replicate_concat (n b r o : Nat) :
    offsets (List.replicate n b ++ [r]) o = (List.range (n + 1)).map (fun j => o + j * b) := by
  induction n generalizing o with
  | zero => simp [offsets]
  | succ n ih =>
    rw [List.replicate_succ, List.cons_append, offsets, ih, List.range_succ_eq_map (n := n + 1)]
    simp only [List.map_cons, List.map_map, Nat.zero_mul, Nat.add_zero, List.cons.injEq, true_and]
    apply List.map_congr_left
    intro j _
    simp only [Function.comp, Nat.succ_eq_add_one, Nat.add_mul, Nat.one_mul]
    omega

theorem cartesian_mem : ∀ (ls : List (List Nat)) (t : List Nat), t ∈ cartesian ls →
    ∀ x ∈ t, ∃ l ∈ ls, x ∈ l
  | [], t, ht, x, hx => by simp [cartesian] at ht; subst ht; cases hx
  | l :: ls, t, ht, x, hx => by
    simp only [cartesian, List.mem_flatMap, List.mem_map] at ht
    obtain ⟨a, ha, u, hu, rfl⟩ := ht
    rcases List.mem_cons.mp hx with rfl | hx'
    · exact ⟨l, List.mem_cons_self, ha⟩
    · obtain ⟨l', hl', hxl⟩ := cartesian_mem ls u hu x hx'
      exact ⟨l', List.mem_cons_of_mem _ hl', hxl⟩

theorem cartesian_mem_length (ss : List (List Nat)) : ∀ t ∈ cartesian ss, t.length = ss.length := by
  induction ss with
  | nil => simp [cartesian]
  | cons l ls ih =>
    intro t ht
    simp only [cartesian, List.mem_flatMap, List.mem_map] at ht
    obtain ⟨x, _, u, hu, rfl⟩ := ht
    simp [ih u hu]

theorem shouldPreconditionDims_length (pt : PType) (rank : Nat) : (shouldPreconditionDims pt rank).length = rank := by
  unfold shouldPreconditionDims
  cases pt
  · simp
  · by_cases h : rank ≤ 1
    · simp [h]
    · simp [h]; omega
  · by_cases h : rank ≤ 1
    · simp [h]
    · simp [h]; omega

theorem numPreconditioned_eq (pt : PType) (r : Nat) :
    numPreconditioned pt r = if pt = .all ∨ r ≤ 1 then r else if pt = .input then r - 1 else 1 := by
  unfold numPreconditioned shouldPreconditionDims
  cases pt
  · simp
  · by_cases h : r ≤ 1 <;> simp [h]
  · by_cases h : r ≤ 1 <;> simp [h]

/-- walking along the flags, every preconditioned axis takes the next slot, counting up from `off` -/
def slotsFrom : List Bool → Nat → List (Option Nat)
  | [], _ => []
  | true :: l, off => some off :: slotsFrom l (off + 1)
  | false :: l, off => none :: slotsFrom l off

theorem slotsFrom_length : ∀ (l : List Bool) (off : Nat), (slotsFrom l off).length = l.length
  | [], _ => rfl
  | true :: l, off => by simp [slotsFrom, slotsFrom_length l]
  | false :: l, off => by simp [slotsFrom, slotsFrom_length l]

theorem slotsFrom_map_isSome : ∀ (l : List Bool) (off : Nat), (slotsFrom l off).map Option.isSome = l
  | [], _ => rfl
  | true :: l, off => by simp [slotsFrom, slotsFrom_map_isSome l]
  | false :: l, off => by simp [slotsFrom, slotsFrom_map_isSome l]

theorem slotsFrom_append : ∀ (l1 l2 : List Bool) (off : Nat),
    slotsFrom (l1 ++ l2) off = slotsFrom l1 off ++ slotsFrom l2 (off + (l1.filter id).length)
  | [], _, _ => rfl
  | true :: l1, l2, off => by
    simp only [List.cons_append, slotsFrom, slotsFrom_append l1 l2, List.filter_cons_of_pos, id, List.length_cons]
    rw [Nat.add_right_comm, Nat.add_assoc]
  | false :: l1, l2, off => by
    simp [slotsFrom, slotsFrom_append l1 l2]

theorem slotsFrom_replicate_true : ∀ (n off : Nat),
    slotsFrom (List.replicate n true) off = (List.range n).map fun j => some (off + j)
  | 0, _ => rfl
  | n + 1, off => by
    rw [List.replicate_succ, slotsFrom, slotsFrom_replicate_true n, List.range_succ_eq_map, List.map_cons,
      List.map_map]
    simp [Function.comp_def, Nat.add_assoc, Nat.add_comm 1]

theorem slotsFrom_replicate_false : ∀ (n off : Nat),
    slotsFrom (List.replicate n false) off = List.replicate n none
  | 0, _ => rfl
  | n + 1, off => by rw [List.replicate_succ, slotsFrom, slotsFrom_replicate_false n, List.replicate_succ]

theorem lt_of_mem_slotsFrom {ix : Nat} : ∀ {l : List Bool} {off : Nat}, some ix ∈ slotsFrom l off →
    ix < off + (l.filter id).length
  | true :: l, off, h => by
    rcases List.mem_cons.mp h with h | h
    · cases h
      simp
    · have := lt_of_mem_slotsFrom h
      simp only [List.filter_cons_of_pos, id, List.length_cons]
      omega
  | false :: l, off, h => by
    rcases List.mem_cons.mp h with h | h
    · cases h
    · simpa using lt_of_mem_slotsFrom h

/-- `_preconds_for_grad` hands block `b` the slots `b·k, b·k + 1, …` along its preconditioned axes -/
theorem precondsForGrad_eq_slotsFrom (pt : PType) (rank b : Nat) :
    precondsForGrad pt rank b = slotsFrom (shouldPreconditionDims pt rank) (b * numPreconditioned pt rank) := by
  -- in each of the five (type, rank ≤ 1) cases both sides are explicit `replicate` / `range` lists;
  -- `slotsFrom_append`, `slotsFrom_replicate_*` compute the right one
  unfold precondsForGrad
  rw [numPreconditioned_eq]
  unfold shouldPreconditionDims
  cases pt
  · simp only [true_or, if_true, slotsFrom_replicate_true]
  · by_cases hr : rank ≤ 1
    · simp only [hr, or_true, if_true, slotsFrom_replicate_true]
    · simp only [hr, reduceCtorEq, or_self, if_false, if_true, slotsFrom_append, slotsFrom_replicate_true, slotsFrom]
  · by_cases hr : rank ≤ 1
    · simp only [hr, or_true, if_true, slotsFrom_replicate_true]
    · simp only [hr, reduceCtorEq, or_self, if_false, slotsFrom_append, slotsFrom_replicate_false,
        List.filter_replicate, id, Bool.false_eq_true, List.length_nil, slotsFrom, List.range_one, List.map_cons,
        List.map_nil]

/-- the entries of `s` whose flag is set -/
def selectDims (s : List Nat) (flags : List Bool) : List Nat := ((s.zip flags).filter (·.2)).map (·.1)

theorem selectDims_cons (a : Nat) (s : List Nat) (f : Bool) (flags : List Bool) :
    selectDims (a :: s) (f :: flags) = if f then a :: selectDims s flags else selectDims s flags := by
  cases f <;> simp [selectDims]

theorem selectDims_length (s : List Nat) (flags : List Bool) (h : s.length = flags.length) :
    (selectDims s flags).length = (flags.filter id).length := by
  rw [selectDims, List.length_map]
  -- read the flags as the second components of the zip: then both sides filter the same list
  conv => rhs; rw [← List.map_snd_zip (l₁ := s) (Nat.le_of_eq h.symm), List.filter_map, List.length_map]
  rfl

theorem selectDims_sub (s : List Nat) (flags : List Bool) : ∀ d ∈ selectDims s flags, d ∈ s := by
  intro d hd
  obtain ⟨⟨a, f⟩, hm, rfl⟩ := List.mem_map.mp hd
  exact (List.of_mem_zip (List.mem_filter.mp hm).1).1

theorem selectDims_append (A B : List Nat) (F G : List Bool) (h : A.length = F.length) :
    selectDims (A ++ B) (F ++ G) = selectDims A F ++ selectDims B G := by
  simp [selectDims, List.zip_append h]

theorem selectDims_true : ∀ A : List Nat, selectDims A (List.replicate A.length true) = A
  | [] => rfl
  | a :: A => by rw [List.length_cons, List.replicate_succ, selectDims_cons, if_pos rfl, selectDims_true A]

theorem selectDims_false : ∀ A : List Nat, selectDims A (List.replicate A.length false) = []
  | [] => rfl
  | a :: A => by
    rw [List.length_cons, List.replicate_succ, selectDims_cons, if_neg Bool.false_ne_true, selectDims_false A]

/-- all axes but the last, and the last axis alone -/
theorem selectDims_last (s : List Nat) (hne : s ≠ []) :
    selectDims s (List.replicate (s.length - 1) true ++ [false]) = s.take (s.length - 1) ∧
    selectDims s (List.replicate (s.length - 1) false ++ [true]) = s.drop (s.length - 1) := by
  obtain ⟨A, x, rfl⟩ : ∃ A x, s = A ++ [x] := ⟨_, _, (List.dropLast_concat_getLast hne).symm⟩
  rw [show (A ++ [x]).length - 1 = A.length by simp, selectDims_append _ _ _ _ (by simp),
    selectDims_append _ _ _ _ (by simp), selectDims_true, selectDims_false, List.take_left' rfl, List.drop_left' rfl]
  simp [selectDims]

theorem blockPrecondDims_eq_select (pt : PType) (s : List Nat) :
    blockPrecondDims pt s = selectDims s (shouldPreconditionDims pt s.length) := by
  cases pt
  · simp [blockPrecondDims, shouldPreconditionDims, selectDims_true]
  · simp only [blockPrecondDims, shouldPreconditionDims]
    split
    · rw [selectDims_true]
    · rename_i h
      rw [(selectDims_last s fun h0 => by simp [h0] at h).1]
  · simp only [blockPrecondDims, shouldPreconditionDims]
    split
    · rw [selectDims_true]
    · rename_i h
      rw [(selectDims_last s fun h0 => by simp [h0] at h).2]

theorem blockPrecondDims_length (pt : PType) (s : List Nat) :
    (blockPrecondDims pt s).length = numPreconditioned pt s.length := by
  rw [blockPrecondDims_eq_select, selectDims_length _ _ (shouldPreconditionDims_length pt s.length).symm]
  rfl

theorem blockPrecondDims_sub (pt : PType) (t : List Nat) : ∀ d ∈ blockPrecondDims pt t, d ∈ t := by
  rw [blockPrecondDims_eq_select]
  exact selectDims_sub t _

theorem precondDim_consistent (r d : Nat) :
    (shouldCompress r d = true ↔ precondDim r d < d) ∧
    (shouldCompress r d = false → precondDim r d = d) ∧
    (shouldCompress r d = true → precondDim r d = r + 2) := by
  unfold shouldCompress precondDim
  by_cases h0 : r = 0
  · simp [h0]
  · by_cases h1 : r + 2 < d
    · simp [h0, h1, Nat.not_le.mpr h1]
    · simp [h0, h1, Nat.not_lt.mp h1]

theorem padDim_zero (s : Nat) : padDim s 0 = s := by simp [padDim]

theorem padDim_of_lt {s b : Nat} (h : s < b) : padDim s b = s := by
  unfold padDim; rw [if_neg (by omega), if_neg (by omega)]

theorem padDim_of_le {s b : Nat} (hb : 0 < b) (hs : b ≤ s) : padDim s b = (s + b - 1) / b * b := by
  unfold padDim; rw [if_neg (by omega), if_pos hs]

theorem le_padDim (s b : Nat) : s ≤ padDim s b := by
  rcases Nat.eq_zero_or_pos b with rfl | hb
  · rw [padDim_zero]; exact Nat.le_refl s
  · rcases Nat.lt_or_ge s b with h | h
    · rw [padDim_of_lt h]; exact Nat.le_refl s
    · rw [padDim_of_le hb h]
      have := Nat.lt_div_mul_add hb (a := s + b - 1)
      omega

theorem inBounds_pad (bs : Nat) (m j : List Nat) (h : inBounds m j) : inBounds (m.map (padDim · bs)) j := by
  induction h using inBounds_induction with
  | nil => trivial
  | cons d ds i is hi _ ih => exact ⟨Nat.lt_of_lt_of_le hi (le_padDim d bs), ih⟩

theorem deriveShapes_original (md bs : Nat) (shape : List Nat) : (deriveShapes md bs shape).original = shape := by
  simp only [deriveShapes]; split <;> rfl

theorem deriveShapes_padded (md bs : Nat) (shape : List Nat) :
    (deriveShapes md bs shape).padded = (deriveShapes md bs shape).merged.map (padDim · bs) := by
  simp only [deriveShapes]; split <;> simp

theorem deriveShapes_merged_prod (md bs : Nat) (shape : List Nat) (hd : ∀ d ∈ shape, 1 ≤ d) :
    prod (deriveShapes md bs shape).merged = prod shape := by
  have h := mergeSmallDims_prod shape md hd
  simp only [deriveShapes]
  split
  · rename_i h1; rw [h1] at h; simpa using h
  · exact h

theorem padTo_get {α} (zero : α) (t : Tensor α) (p idx : List Nat) (h : inBounds t.shape idx) :
    (t.padTo zero p).get idx = t.get idx := by
  simp [Tensor.padTo, lt2_of_inBounds _ _ h]

theorem tfMerge_get {α} (zero : α) (s : TFShapes) (bs : Nat) (t : Tensor α) (idx : List Nat)
    (h : inBounds s.merged idx) : (tfMerge zero s bs t).get idx = (t.reshape s.merged).get idx := by
  unfold tfMerge
  split
  · exact padTo_get zero _ _ idx h
  · rfl

theorem tfMerge_shape {α : Type} {zero : α} (md bs : Nat) (shape : List Nat) (t : Tensor α) :
    (tfMerge zero (deriveShapes md bs shape) bs t).shape = (deriveShapes md bs shape).padded := by
  -- no padding happens only when the block size is 0 (`padDim · 0` is the identity) or the padded shape is empty (then
  -- so is the merged one)
  unfold tfMerge
  dsimp only
  split
  · rfl
  · rename_i h
    simp only [Tensor.reshape]
    rw [deriveShapes_padded]
    rw [deriveShapes_padded] at h
    by_cases hb : bs = 0
    · subst hb; simp [padDim_zero]
    · have : List.map (fun x => padDim x bs) (deriveShapes md bs shape).merged = [] :=
        Decidable.byContradiction fun hne => h ⟨hne, Nat.pos_of_ne_zero hb⟩
      rw [this]
      simpa using this

theorem tfUnmerge_get {α : Type} (s : TFShapes) (bs : Nat) (t : Tensor α) (idx : List Nat) :
    (tfUnmerge s bs t).get idx = t.get (unravel s.merged (ravel s.original idx)) := by
  unfold tfUnmerge
  simp only [Tensor.reshape]
  split <;> rfl

theorem addOff_cons (o x : Nat) (os xs : List Nat) : addOff (o :: os) (x :: xs) = (o + x) :: addOff os xs := rfl

end PrecondVerif.Shapes
