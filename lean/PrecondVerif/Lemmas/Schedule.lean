/-
Helper lemmas for the schedule automata (C04): histories as folds with the two run principles `frozen_between` and
`initial_or_set`, the scheduled interval, every component of one step of Distributed Shampoo and of the Tearfree
automata (Shampoo, Sketchy, grafting) as an equation on the counter, the blend arithmetic over a ring.
-/
import Mathlib.Algebra.Ring.Defs
import Mathlib.Algebra.Group.Basic
import PrecondVerif.Model.Schedule

namespace PrecondVerif.Schedule

section History
variable {S I O : Type} (step : S → I → S × O)

theorem run_nil (s : S) : run step s [] = s := rfl

theorem run_cons (s : S) (i : I) (is : List I) :
    run step s (i :: is) = run step (step s i).1 is := rfl

theorem run_append (s : S) (a b : List I) :
    run step s (a ++ b) = run step (run step s a) b :=
  List.foldl_append

theorem stateAt_zero (s : S) (is : List I) : stateAt step s is 0 = s := rfl

theorem stateAt_succ (s : S) (is : List I) (k : Nat) (h : k < is.length) :
    stateAt step s is (k + 1) = (step (stateAt step s is k) is[k]).1 := by
  unfold stateAt
  rw [List.take_add_one, run_append, List.getElem?_eq_getElem h]
  rfl

theorem stateAt_length (s : S) (is : List I) : stateAt step s is is.length = run step s is := by
  simp [stateAt]

theorem run_count (cnt : S → Nat) (hc : ∀ s i, cnt (step s i).1 = cnt s + 1) (s : S) (is : List I) :
    cnt (run step s is) = cnt s + is.length := by
  induction is generalizing s with
  | nil => rfl
  | cons i is ih => rw [run_cons, ih, hc, List.length_cons, Nat.add_assoc, Nat.add_comm 1]

theorem stateAt_count (cnt : S → Nat) (hc : ∀ s i, cnt (step s i).1 = cnt s + 1) (s : S)
    (is : List I) (k : Nat) (hk : k ≤ is.length) : cnt (stateAt step s is k) = cnt s + k := by
  unfold stateAt
  rw [run_count step cnt hc, List.length_take, Nat.min_eq_left hk]

theorem stateAt_succ_count (cnt : S → Nat) (hc : ∀ s i, cnt (step s i).1 = cnt s + 1) (s : S)
    (is : List I) (k : Nat) (hk : k < is.length) :
    stateAt step s is (k + 1) = (step (stateAt step s is k) is[k]).1 ∧ cnt (stateAt step s is k) = cnt s + k :=
  ⟨stateAt_succ step s is k hk, stateAt_count step cnt hc s is k (Nat.le_of_lt hk)⟩

/-- Frozen between triggers: a component `f` that a step can change only when `trig` holds of the counter is the same
at times `j ≤ k` if no trigger falls in `[j, k)`. The range forms of C04 (`*_frozen_between_*`) are its instances. -/
theorem frozen_between {X : Type} (cnt : S → Nat) (f : S → X) (trig : Nat → Prop)
    (hc : ∀ s i, cnt (step s i).1 = cnt s + 1)
    (hf : ∀ s i, ¬ trig (cnt s) → f (step s i).1 = f s)
    (s0 : S) (is : List I) (j k : Nat) (hjk : j ≤ k) (hk : k ≤ is.length)
    (hno : ∀ t, j ≤ t → t < k → ¬ trig (cnt s0 + t)) :
    f (stateAt step s0 is k) = f (stateAt step s0 is j) := by
  induction k, hjk using Nat.le_induction with
  | base => rfl
  | succ k hjk ih =>
    rw [stateAt_succ step s0 is k hk, hf, ih (Nat.le_of_lt hk) fun t h1 h2 => hno t h1 (Nat.lt_succ_of_lt h2)]
    rw [stateAt_count step cnt hc s0 is k (Nat.le_of_lt hk)]
    exact hno k hjk (Nat.lt_succ_self k)

/-- Initial or set: if every step either keeps the component `f` or sets it to a value with property `Q r` (`r` the step),
then at any time `k` the component is the initial one or has `Q r` for some earlier step `r < k` (the last one that set
it). `ComposeProps.C03.stored_preconditioner_is_initial_or_accepted_root` is the instance. -/
theorem initial_or_set {X : Type} (f : S → X) (s0 : S) (is : List I)
    (Q : (r : Nat) → r < is.length → X → Prop)
    (hstep : ∀ r (hr : r < is.length), f (stateAt step s0 is (r + 1)) = f (stateAt step s0 is r) ∨
      Q r hr (f (stateAt step s0 is (r + 1)))) (k : Nat) (hk : k ≤ is.length) :
    f (stateAt step s0 is k) = f s0 ∨ ∃ r, ∃ hr : r < k, Q r (by omega) (f (stateAt step s0 is k)) := by
  induction k with
  | zero => exact Or.inl (congrArg f (stateAt_zero step s0 is))
  | succ k ih =>
    rcases hstep k hk with e | h
    · rw [e]
      exact (ih (Nat.le_of_lt hk)).imp_right fun ⟨r, hr, h⟩ => ⟨r, Nat.lt_succ_of_lt hr, h⟩
    · exact Or.inr ⟨k, Nat.lt_succ_self k, h⟩

end History

theorem scheduledInterval_ge_one (s e d : Rat) : 1 ≤ scheduledInterval s e d := by
  have : 1 ≤ scheduledIntervalInt s e d := Int.le_max_right _ _
  unfold scheduledInterval
  omega

theorem scheduledInterval_one_or_ten (s e d : Rat) :
    scheduledInterval s e d = 1 ∨ 10 ∣ scheduledInterval s e d := by
  unfold scheduledInterval scheduledIntervalInt
  generalize ((s + (1 - d) * e) / 10).floor = q
  rcases Int.le_total (q * 10) 1 with h | h
  · left
    rw [Int.max_eq_right h]
    rfl
  · right
    rw [Int.max_eq_left h]
    obtain ⟨n, rfl⟩ := Int.eq_ofNat_of_zero_le (a := q) (by omega)
    exact ⟨n, Nat.mul_comm n 10⟩

section DS
variable {σ π μ γ φ δ m α : Type}

theorem dsPerformStats_eq (si c : Nat) (h : 1 ≤ si) : dsPerformStats si c = (c % si == 0) := by
  unfold dsPerformStats
  by_cases hs : si > 1
  · rw [if_pos hs]
  · rw [if_neg hs, Nat.le_antisymm (Nat.le_of_not_lt hs) h, Nat.mod_one]
    rfl

theorem dsPerformPrecond_iff {itv c : Nat} : dsPerformPrecond itv c = true ↔ c % itv = 0 :=
  beq_iff_eq

/-- the `steps == 1` shortcut of `_update_preconditioners_fn` changes nothing (cf. `Gate.candidate_eq`) -/
theorem dsCandidate_eq (K : DSKernels σ π μ γ φ δ m α) (itv c : Nat) (st : σ) (p : π) (f : φ) :
    dsCandidate K itv c st p f
      = if c % itv = 0 then K.rootAll st p f else (K.junk st, K.failMetrics) := by
  unfold dsCandidate dsPerformPrecond
  by_cases h : itv = 1
  · subst h
    simp [Nat.mod_one]
  · simp [h]

variable [Add α] [Mul α] [Sub α] [OfNat α 0] [OfNat α 1]
variable (K : DSKernels σ π μ γ φ δ m α) (cfg : DSCfg) (s : DSState σ π μ δ m) (i : DSInp γ φ)

/-! the components of `dsStep`, read off its definition -/

theorem dsStep_fst_stats : (dsStep K cfg s i).1.stats = dsStats' K cfg s i.grad := rfl

theorem dsStep_fst_precond :
    (dsStep K cfg s i).1.precond
      = gate K s.precond
          (dsCandidate K (cfg.interval s.count) s.count (dsStep K cfg s i).1.stats s.precond i.fault) := rfl

theorem dsStep_fst_metrics :
    (dsStep K cfg s i).1.metrics
      = if dsPerformPrecond (cfg.interval s.count) s.count
        then (dsCandidate K (cfg.interval s.count) s.count (dsStep K cfg s i).1.stats s.precond i.fault).2
        else s.metrics := rfl

theorem dsStep_snd :
    (dsStep K cfg s i).2
      = K.finish
          (blend (runShampoo cfg.start s.count)
            (K.shampooUpd s.mom (if cfg.sharded then s.precond else (dsStep K cfg s i).1.precond) i.grad s.count).2.2
            (K.graftUpd s.graft i.grad s.count).2.2)
          (blend (runShampoo cfg.start s.count)
            (K.shampooUpd s.mom (if cfg.sharded then s.precond else (dsStep K cfg s i).1.precond) i.grad s.count).2.1
            (K.graftUpd s.graft i.grad s.count).2.1)
          s.count := rfl

theorem dsStep_stats (hsi : 1 ≤ cfg.si) :
    (dsStep K cfg s i).1.stats = if s.count % cfg.si = 0 then K.statsUpd s.stats i.grad else s.stats := by
  rw [dsStep_fst_stats, dsStats', dsPerformStats_eq _ _ hsi]
  exact if_congr beq_iff_eq rfl rfl

theorem stats_invariant (s0 : DSState σ π μ δ m) (is : List (DSInp γ φ)) (I : σ → Prop) (h0 : I s0.stats)
    (hupd : ∀ st g, I st → I (K.statsUpd st g)) (k : Nat) (hk : k ≤ is.length) :
    I (stateAt (dsStep K cfg) s0 is k).stats := by
  induction k with
  | zero =>
    rw [stateAt_zero]
    exact h0
  | succ k ih =>
    rw [stateAt_succ _ s0 is k hk, dsStep_fst_stats, dsStats']
    split
    · exact hupd _ _ (ih (Nat.le_of_lt hk))
    · exact ih (Nat.le_of_lt hk)

theorem dsStep_precond_refresh (hm : s.count % cfg.interval s.count = 0) :
    (dsStep K cfg s i).1.precond
      = gate K s.precond (K.rootAll (dsStep K cfg s i).1.stats s.precond i.fault) := by
  rw [dsStep_fst_precond, dsCandidate_eq, if_pos hm]

/-- the only assumption on the code constants: the initial error of `efficient_cond` is rejected by the gate -/
theorem dsStep_precond_skip (hbad : K.bad K.failMetrics = true) (hn : s.count % cfg.interval s.count ≠ 0) :
    (dsStep K cfg s i).1.precond = s.precond := by
  rw [dsStep_fst_precond, dsCandidate_eq, if_neg hn]
  exact if_pos hbad

theorem dsStep_metrics :
    (dsStep K cfg s i).1.metrics
      = if s.count % cfg.interval s.count = 0
        then (K.rootAll (dsStep K cfg s i).1.stats s.precond i.fault).2 else s.metrics := by
  rw [dsStep_fst_metrics, dsCandidate_eq]
  by_cases h : s.count % cfg.interval s.count = 0
  · rw [if_pos (dsPerformPrecond_iff.mpr h), if_pos h, if_pos h]
  · rw [if_neg (mt dsPerformPrecond_iff.mp h), if_neg h]

end DS

section Tearfree
variable {σ ρ γ υ κ : Type}

theorem tfShampooStep_stats (K : TFKernels σ ρ γ υ) (sf pf : Nat) (s : TFState σ ρ) (g : γ) :
    (tfShampooStep K sf pf s g).1.stats = if s.count % sf = 0 then K.statsUpd s.stats g else s.stats :=
  if_congr beq_iff_eq rfl rfl

theorem tfShampooStep_roots (K : TFKernels σ ρ γ υ) (sf pf : Nat) (s : TFState σ ρ) (g : γ) :
    (tfShampooStep K sf pf s g).1.roots
      = if s.count % pf = 0 then K.root (tfShampooStep K sf pf s g).1.stats else s.roots :=
  if_congr beq_iff_eq rfl rfl

theorem sketchyStep_sketch (K : SKKernels κ γ υ) (f : Nat) (s : SKState κ) (g : γ) :
    (sketchyStep K f s g).1.sketch = if s.count % f = 0 then K.upd s.sketch g else s.sketch :=
  if_congr beq_iff_eq rfl rfl

theorem graftStep_out {D N : Type} (dirStep : D → γ → D × υ) (normStep : N → γ → N × υ) (scale : υ → υ → υ)
    (start : Nat) (masked : Bool) (s : GraftState D N) (g : γ) :
    (graftStep dirStep normStep scale start masked s g).2
      = if masked = true ∨ s.count < start then (normStep s.norm g).2
        else scale (dirStep s.direction g).2 (normStep s.norm g).2 := by
  unfold graftStep
  dsimp only
  by_cases hm : masked = true
  · rw [if_pos hm, if_pos (Or.inl hm)]
  · by_cases hs : s.count < start
    · rw [if_neg hm, if_neg (Nat.not_le.mpr hs), if_pos (Or.inr hs)]
    · rw [if_neg hm, if_pos (Nat.le_of_not_lt hs), if_neg (not_or.mpr ⟨hm, hs⟩)]

end Tearfree

/-- (`Graft.runShampoo_of_lt` / `_of_le` are the same facts about the other model of `run_shampoo`.) -/
theorem runShampoo_before {α : Type} [OfNat α 0] [OfNat α 1] (start c : Nat) (h : c < start) :
    (runShampoo start c : α) = 0 :=
  if_neg (Nat.not_le.mpr h)

theorem runShampoo_after {α : Type} [OfNat α 0] [OfNat α 1] (start c : Nat) (h : start ≤ c) :
    (runShampoo start c : α) = 1 :=
  if_pos h

section Blend
variable {α : Type} [Ring α]

theorem blend_zero (a b : α) : blend (0 : α) a b = b := by
  unfold blend
  rw [zero_mul, zero_add, sub_zero, one_mul]

theorem blend_one (a b : α) : blend (1 : α) a b = a := by
  unfold blend
  rw [one_mul, sub_self, zero_mul, add_zero]

end Blend

end PrecondVerif.Schedule
