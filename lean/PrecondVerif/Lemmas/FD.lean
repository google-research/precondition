/-
Lemmas for C09 (frequent-directions sketch, `Model/FD.lean`), by topic; every block opens with the classes it needs.
The defining equations of `fdStep`, `fdRunFrom`, `fdRun`, `fdRunO`; the model's matrices as Mathlib matrices (`toM`, `sketchM`,
`covFrom`); what one deflation step `stepO` computes (`newEig`, masks, the Gram matrix of `fdB`); Sketchy's root storage
denotes the generic step; the matrix form `SpecM` of the SVD specification and the rank argument; induction along a run and the
low-rank invariant `TracksIn`; the Distributed Shampoo instance (`dsB`/`dsInput` equations, the clamp, the guards of
`_fd_update_root`); the Loewner part (run invariant `BracketInv`, deflation lemma, the bracket kept by one step); the OCO
instance; the packed state cut of the public optimizer.
Lemmas state sketches as `toM (sketch ·)`. `sketchM` is the product form: `sketch_eq` links the two, `sketchM_stepO` computes it
after a step, `deflation` and `oco_bracket` are stated with it.
-/
import PrecondVerif.Model.FD
import PrecondVerif.Lemmas.Loewner
import PrecondVerif.Lemmas.Spectral
import PrecondVerif.Lemmas.Basic.FinSum
import Mathlib.Tactic.LinearCombination

-- `[Field R]` and `[IsStrictOrderedRing R]` both provide `Nontrivial R`; an ordered field is stated with both
set_option linter.overlappingInstances false

namespace PrecondVerif.FD
open Finset Matrix

section Generic
variable {α : Type} [Zero α] [Add α] [Sub α] [Mul α] [LT α] [DecidableLT α] {d k m : ℕ}

theorem fdStep_eq (svd : SvdFn α d (k + m)) (sqrt : α → α) (β : α) (st : State α d k) (G : Mat α d m) :
    fdStep svd sqrt β st G = stepO k β st.t (svd (fdB sqrt β st G)) := rfl

theorem fdRunFrom_cons (svd : SvdFn α d (k + m)) (sqrt : α → α) (β : α) (st : State α d k) (G : Mat α d m)
    (gs : List (Mat α d m)) :
    fdRunFrom svd sqrt β st (G :: gs) = fdRunFrom svd sqrt β (fdStep svd sqrt β st G) gs := rfl

theorem fdRun_eq (svd : SvdFn α d (k + m)) (sqrt : α → α) (β : α) (gs : List (Mat α d m)) :
    fdRun svd sqrt β gs = fdRunFrom svd sqrt β (State.zero d k) gs := rfl

theorem fdRunO_cons (β : α) (st : State α d k) (o : SvdOut α d) (os : List (SvdOut α d)) :
    fdRunO β st (o :: os) = fdRunO β (stepO k β st.t o) os := rfl

end Generic

section Bridge
variable {R : Type} [Field R] {d k m n : ℕ}

theorem sumFin_eq (f : Fin n → R) : sumFin f = ∑ i, f i := by
  rw [sumFin, Fin.sum_univ_def]

def toM (A : Mat R m n) : Matrix (Fin m) (Fin n) R := Matrix.of A

set_option linter.unusedSectionVars false in
@[simp] theorem toM_apply (A : Mat R m n) (i : Fin m) (j : Fin n) : toM A i j = A i j := rfl

def sketchM (st : State R d k) : Matrix (Fin d) (Fin d) R := toM st.V * diagonal st.l * (toM st.V)ᵀ

theorem sketch_eq (st : State R d k) : toM (sketch st) = sketchM st := by
  ext i j
  rw [sketchM, Spectral.conj_diagonal_apply]
  simp [sketch, sumFin_eq]

theorem outer_eq (G : Mat R d m) : toM (outer G) = toM G * (toM G)ᵀ := by
  ext i j
  simp [outer, sumFin_eq, Matrix.mul_apply]

theorem toM_zero : toM (fun _ _ => 0 : Mat R m n) = 0 := rfl

theorem sketch_zero : toM (sketch (State.zero d k : State R d k)) = 0 := by
  ext i j
  simp [sketch, sumFin_eq, State.zero]

theorem outer_zero : toM (outer (fun _ _ => 0 : Mat R d m)) = 0 := by
  ext i j
  simp [outer, sumFin_eq]

theorem covFrom_cons (β : R) (C : Mat R d d) (G : Mat R d m) (gs : List (Mat R d m)) :
    covFrom β C (G :: gs) = covFrom β (fun i j => β * C i j + outer G i j) gs := rfl

theorem toM_decay_add_outer (β : R) (C : Mat R d d) (G : Mat R d m) :
    toM (fun i j => β * C i j + outer G i j : Mat R d d) = β • toM C + toM (outer G) := by
  ext i j; rfl

theorem uAt_fin (U : Mat R d d) (i c : Fin d) : uAt U i c.1 = U i c := by simp [uAt]
theorem sAt_fin (s : Vec R d) (c : Fin d) : sAt s c.1 = s c := by simp [sAt]

/-- `rank (β • sketch) ≤ k`; with the decay factor, because that is the Gram matrix of the zero-gradient step (`C09.fd_zero_grad_step`) -/
theorem sketch_rank_le (st : State R d k) (β : R) : (β • toM (sketch st)).rank ≤ k := by
  rw [sketch_eq, sketchM, ← Matrix.smul_mul, ← Matrix.mul_smul]
  exact Loewner.rank_conj_le _ _

end Bridge

section Step
variable {R : Type} [Field R] [LinearOrder R] {d k m : ℕ}

theorem sAt_nonneg {s : Vec R d} (h : ∀ a, 0 ≤ s a) (i : ℕ) : 0 ≤ sAt s i := by
  unfold sAt
  split_ifs
  · exact h _
  · exact le_rfl

theorem cutoff_nonneg {o : SvdOut R d} (hnn : ∀ a, 0 ≤ o.s a) : 0 ≤ cutoff k o := sAt_nonneg hnn k

/-- eigenvalue `n_c` of the new sketch along the `c`-th singular direction -/
def newEig (k : ℕ) (o : SvdOut R d) (c : ℕ) : R :=
  if c < k ∧ 0 < (sAt o.s c - cutoff k o) * (sAt o.s c + cutoff k o) then
    (sAt o.s c - cutoff k o) * (sAt o.s c + cutoff k o) else 0

theorem newEig_of_ge (o : SvdOut R d) {c : ℕ} (hc : k ≤ c) : newEig k o c = 0 :=
  if_neg fun h => absurd h.1 (not_lt.mpr hc)

theorem newEig_of_kept (o : SvdOut R d) {a : Fin k} (hka : kept k o a = true) : newEig k o a.1 = deflRaw k o a :=
  if_pos ⟨a.2, of_decide_eq_true hka⟩

theorem newEig_of_not_kept (o : SvdOut R d) {a : Fin k} (hka : ¬ kept k o a = true) : newEig k o a.1 = 0 :=
  if_neg fun h => hka (decide_eq_true h.2)

theorem stepO_V_of_kept (β t : R) (o : SvdOut R d) (i : Fin d) {a : Fin k} (hka : kept k o a = true) :
    (stepO k β t o).V i a = uAt o.U i a.1 := if_pos hka

theorem stepO_l_of_kept (β t : R) (o : SvdOut R d) {a : Fin k} (hka : kept k o a = true) :
    (stepO k β t o).l a = deflRaw k o a := if_pos hka

theorem stepO_V_of_not_kept (β t : R) (o : SvdOut R d) (i : Fin d) {a : Fin k} (hka : ¬ kept k o a = true) :
    (stepO k β t o).V i a = 0 := if_neg hka

theorem stepO_l_of_not_kept (β t : R) (o : SvdOut R d) {a : Fin k} (hka : ¬ kept k o a = true) :
    (stepO k β t o).l a = 0 := if_neg hka

theorem stepO_t (β t : R) (o : SvdOut R d) : (stepO k β t o).t = β * t + rho k o := rfl

theorem newEig_eq_deflRaw_of_nonneg (o : SvdOut R d) (a : Fin k) (h : 0 ≤ deflRaw k o a) :
    newEig k o a.1 = deflRaw k o a := by
  by_cases hka : kept k o a = true
  · exact newEig_of_kept o hka
  · rw [newEig_of_not_kept o hka]
    exact le_antisymm h (not_lt.mp fun hp => hka (decide_eq_true hp))

/-- a zeroed direction has eigenvalue 0, so masking `u` as well does not change the term -/
theorem stepO_V_l_V_eq (β t : R) (o : SvdOut R d) (i j : Fin d) (a : Fin k) :
    (stepO k β t o).V i a * (stepO k β t o).l a * (stepO k β t o).V j a
      = uAt o.U i a.1 * newEig k o a.1 * uAt o.U j a.1 := by
  by_cases hka : kept k o a = true
  · rw [stepO_V_of_kept β t o i hka, stepO_V_of_kept β t o j hka, stepO_l_of_kept β t o hka, newEig_of_kept o hka]
  · rw [stepO_V_of_not_kept β t o i hka, newEig_of_not_kept o hka, zero_mul, zero_mul, mul_zero, zero_mul]

theorem sketchM_stepO (hk : k ≤ d) (β t : R) (o : SvdOut R d) :
    sketchM (stepO k β t o) = toM o.U * diagonal (fun c : Fin d => newEig k o c.1) * (toM o.U)ᵀ := by
  ext i j
  rw [sketchM, Spectral.conj_diagonal_apply, Spectral.conj_diagonal_apply]
  simp only [toM_apply, stepO_V_l_V_eq, ← uAt_fin o.U]
  exact Eq.symm (sum_fin_emb hk _ _ (fun _ => rfl) fun x hx => by rw [newEig_of_ge o hx, mul_zero, zero_mul])

theorem stepO_l_nonneg (β t : R) (o : SvdOut R d) (a : Fin k) : 0 ≤ (stepO k β t o).l a := by
  by_cases hka : kept k o a = true
  · rw [stepO_l_of_kept β t o hka]
    exact (of_decide_eq_true hka).le
  · rw [stepO_l_of_not_kept β t o hka]

theorem invRoots_eq (pw : R → R) (eps β t : R) (o : SvdOut R d) (a : Fin k) :
    invRoots k pw eps β t o a =
      if kept k o a = true then pw ((stepO k β t o).l a + (stepO k β t o).t + eps) else 0 := by
  unfold invRoots
  by_cases hka : kept k o a = true
  · rw [if_pos hka, if_pos hka, stepO_l_of_kept β t o hka, stepO_t, deflRaw, rho]
    congr 1
    ring
  · rw [if_neg hka, if_neg hka]

variable [IsStrictOrderedRing R]

theorem gram_fdB (sqrt : R → R) (hsq : ∀ x, 0 ≤ x → sqrt x * sqrt x = x) (β : R) (hβ : 0 ≤ β)
    (st : State R d k) (hl : ∀ a, 0 ≤ st.l a) (G : Mat R d m) :
    toM (outer (fdB sqrt β st G)) = β • toM (sketch st) + toM (outer G) := by
  ext i j
  simp only [Matrix.add_apply, Matrix.smul_apply, toM_apply, outer, sketch, sumFin_eq, fdB, Fin.sum_univ_add,
    Fin.addCases_left, Fin.addCases_right, smul_eq_mul, Finset.mul_sum]
  congr 1
  refine Finset.sum_congr rfl fun a _ => ?_
  have h1 := hsq β hβ
  have h2 := hsq (st.l a) (hl a)
  linear_combination (st.V i a * st.V j a * sqrt (st.l a) * sqrt (st.l a)) * h1 + (β * st.V i a * st.V j a) * h2

theorem rho_nonneg (o : SvdOut R d) : 0 ≤ rho k o := mul_self_nonneg _

theorem stepO_t_nonneg (β t : R) (hβ : 0 ≤ β) (ht : 0 ≤ t) (o : SvdOut R d) : 0 ≤ (stepO k β t o).t := by
  rw [stepO_t]
  exact add_nonneg (mul_nonneg hβ ht) (rho_nonneg o)

end Step

section Sketchy
variable {R : Type} [Field R] [LinearOrder R] {d k m : ℕ}

theorem sketchyUpdateAxis_eq (svd : SvdFn R d (k + m)) (sqrt pw : R → R) (epsilon : R)
    (relative : Bool) (β : R) (st : SkState R d k) (G : Mat R d m) :
    sketchyUpdateAxis svd sqrt pw epsilon relative β st G
      = sketchyUpdateAxisO sqrt pw epsilon relative β st (svd (sketchyB sqrt β st G)) := rfl

theorem relu_of_nonneg {x : R} (h : 0 ≤ x) : relu x = x := max_eq_left h

theorem relu_nonneg (x : R) : 0 ≤ relu x := le_max_right x 0

variable [IsStrictOrderedRing R]

/-- Sketchy's stored root `e = sqrt(max(0, s − c)) · sqrt(s + c)` (all three arguments clamped at 0 first) squares to the
generic deflated eigenvalue `(s − c)(s + c)` clamped at 0 -/
theorem skDeflated_mul_self (sqrt : R → R) (hsq : ∀ x, 0 ≤ x → sqrt x * sqrt x = x) {o : SvdOut R d}
    (hnn : ∀ a, 0 ≤ o.s a) (a : Fin k) :
    skDeflated k sqrt o a * skDeflated k sqrt o a = relu (deflRaw k o a) := by
  have hs : 0 ≤ sAt o.s a.1 + cutoff k o := add_nonneg (sAt_nonneg hnn a.1) (cutoff_nonneg hnn)
  rw [skDeflated, relu_of_nonneg (sAt_nonneg hnn a.1), relu_of_nonneg (cutoff_nonneg hnn), mul_mul_mul_comm,
    hsq _ (relu_nonneg _), hsq _ hs, relu, relu, deflRaw, max_mul_of_nonneg _ _ hs, zero_mul]

/-- so `e ≥ 0` is positive exactly on the directions the generic step keeps -/
theorem skDeflated_pos_iff (sqrt : R → R) (hsq : ∀ x, 0 ≤ x → sqrt x * sqrt x = x) (hsnn : ∀ x, 0 ≤ x → 0 ≤ sqrt x)
    {o : SvdOut R d} (hnn : ∀ a, 0 ≤ o.s a) (a : Fin k) : 0 < skDeflated k sqrt o a ↔ 0 < deflRaw k o a := by
  have he : 0 ≤ skDeflated k sqrt o a :=
    mul_nonneg (hsnn _ (relu_nonneg _)) (hsnn _ (add_nonneg (relu_nonneg _) (relu_nonneg _)))
  rw [he.lt_iff_ne', ← mul_self_pos, skDeflated_mul_self sqrt hsq hnn a, relu, lt_max_iff, or_iff_left (lt_irrefl 0)]

/-- Sketchy's root-storage update denotes the generic step: `(V', e'², t') = stepO …` -/
theorem sketchy_denote (sqrt pw : R → R) (hsq : ∀ x, 0 ≤ x → sqrt x * sqrt x = x) (hsnn : ∀ x, 0 ≤ x → 0 ≤ sqrt x)
    (epsilon : R) (relative : Bool) (β : R) (st : SkState R d k) (o : SvdOut R d) (hnn : ∀ a, 0 ≤ o.s a) :
    (sketchyUpdateAxisO sqrt pw epsilon relative β st o).st.denote = stepO k β st.t o := by
  have hmask : ∀ a : Fin k, decide (0 < skDeflated k sqrt o a) = kept k o a := fun a =>
    decide_eq_decide.mpr (skDeflated_pos_iff sqrt hsq hsnn hnn a)
  simp only [sketchyUpdateAxisO, SkState.denote, stepO, State.mk.injEq, hmask, true_and]
  refine ⟨?_, ?_⟩
  · funext a
    by_cases hka : kept k o a = true
    · simp only [hka, if_true]
      rw [skDeflated_mul_self sqrt hsq hnn a, relu_of_nonneg (of_decide_eq_true hka).le]
    · simp only [hka, if_false, Bool.false_eq_true, mul_zero]
  · rw [relu_of_nonneg (cutoff_nonneg hnn), rho]; ring

/-- `B Bᵀ = β · V diag(e²) Vᵀ + G Gᵀ` for the matrix Sketchy hands to the SVD (the QR pre-reduction keeps `B Bᵀ`) -/
theorem gram_sketchyB (sqrt : R → R) (hsq : ∀ x, 0 ≤ x → sqrt x * sqrt x = x) (β : R) (hβ : 0 ≤ β)
    (st : SkState R d k) (G : Mat R d m) :
    toM (outer (sketchyB sqrt β st G)) = β • toM (sketch st.denote) + toM (outer G) := by
  ext i j
  simp only [Matrix.add_apply, Matrix.smul_apply, toM_apply, outer, sketch, sumFin_eq, sketchyB, Fin.sum_univ_add,
    Fin.addCases_left, Fin.addCases_right, smul_eq_mul, Finset.mul_sum, SkState.denote]
  congr 1
  refine Finset.sum_congr rfl fun a _ => ?_
  have h1 := hsq β hβ
  linear_combination (st.V i a * st.V j a * st.e a * st.e a) * h1

end Sketchy

section Spec
variable {R : Type} [Field R] [LinearOrder R] {d k m : ℕ}

/-- matrix form of the SVD specification, relative to the Gram matrix `M = B Bᵀ` -/
structure SpecM (M : Matrix (Fin d) (Fin d) R) (o : SvdOut R d) : Prop where
  uut : toM o.U * (toM o.U)ᵀ = 1
  utu : (toM o.U)ᵀ * toM o.U = 1
  recon : toM o.U * diagonal (fun a => o.s a * o.s a) * (toM o.U)ᵀ = M
  nonneg : ∀ a, 0 ≤ o.s a
  sorted : ∀ a b : Fin d, a ≤ b → o.s b ≤ o.s a

theorem SvdSpec.specM {n : ℕ} {B : Mat R d n} {o : SvdOut R d} (h : SvdSpec B o) :
    SpecM (toM (outer B)) o where
  uut := Loewner.mul_transpose_eq_one _ fun i j => by rw [← sumFin_eq]; exact h.uOrthoRows i j
  utu := Loewner.transpose_mul_eq_one _ fun a b => by rw [← sumFin_eq]; exact h.uOrthoCols a b
  recon := by
    ext i j
    have := h.recon i j
    rw [sumFin_eq] at this
    rw [Spectral.conj_diagonal_apply]
    simpa using this
  nonneg := h.nonneg
  sorted := h.sorted

theorem sAt_antitone {M : Matrix (Fin d) (Fin d) R} {o : SvdOut R d} (h : SpecM M o) {i j : ℕ} (hij : i ≤ j) :
    sAt o.s j ≤ sAt o.s i := by
  unfold sAt
  split_ifs with hj hi hi
  · exact h.sorted ⟨i, hi⟩ ⟨j, hj⟩ hij
  · exact absurd (lt_of_le_of_lt hij hj) hi
  · exact h.nonneg _
  · exact le_rfl

theorem stepO_colGram {M : Matrix (Fin d) (Fin d) R} {o : SvdOut R d} (h : SpecM M o) (hk : k ≤ d) (β t : R)
    (a b : Fin k) :
    colGram (stepO k β t o).V a b = if a = b ∧ kept k o a = true then 1 else 0 := by
  have ha : a.1 < d := lt_of_lt_of_le a.2 hk
  have hb : b.1 < d := lt_of_lt_of_le b.2 hk
  have hu : ∑ i, uAt o.U i a.1 * uAt o.U i b.1 = if a = b then 1 else 0 := by
    have := congrFun (congrFun h.utu ⟨a.1, ha⟩) ⟨b.1, hb⟩
    rw [Matrix.mul_apply, Matrix.one_apply] at this
    simpa [uAt, ha, hb, Fin.ext_iff] using this
  rw [colGram, sumFin_eq]
  by_cases hka : kept k o a = true
  · by_cases hkb : kept k o b = true
    · simp only [stepO_V_of_kept β t o _ hka, stepO_V_of_kept β t o _ hkb]
      rw [if_congr (and_iff_left hka) rfl rfl]
      exact hu
    · rw [if_neg fun h : a = b ∧ kept k o a = true => hkb (h.1 ▸ h.2)]
      exact Finset.sum_eq_zero fun i _ => by rw [stepO_V_of_not_kept β t o i hkb, mul_zero]
  · rw [if_neg fun h : a = b ∧ kept k o a = true => hka h.2]
    exact Finset.sum_eq_zero fun i _ => by rw [stepO_V_of_not_kept β t o i hka, zero_mul]

variable [IsStrictOrderedRing R]

/-- each eigenvalue is lowered by at most `ρ`: directions `c < k` lose `min(s_c², ρ)`, the others have `s_c ≤ s_k` -/
theorem newEig_bounds {M : Matrix (Fin d) (Fin d) R} {o : SvdOut R d} (h : SpecM M o) (c : Fin d) :
    newEig k o c.1 ≤ o.s c * o.s c ∧ o.s c * o.s c ≤ newEig k o c.1 + rho k o := by
  have hρ : 0 ≤ rho k o := rho_nonneg o
  rw [← sAt_fin o.s c]
  have hraw : (sAt o.s c.1 - cutoff k o) * (sAt o.s c.1 + cutoff k o) = sAt o.s c.1 * sAt o.s c.1 - rho k o := by
    rw [rho]; ring
  unfold newEig
  rw [hraw]
  split_ifs with hc
  · exact ⟨sub_le_self _ hρ, (sub_add_cancel _ _).ge⟩
  · refine ⟨mul_self_nonneg _, ?_⟩
    rw [zero_add]
    by_cases hck : c.1 < k
    · exact not_lt.mp fun hp => hc ⟨hck, sub_pos.mpr hp⟩
    · exact mul_self_le_mul_self (sAt_nonneg h.nonneg _) (sAt_antitone h (not_lt.mp hck))

theorem sigma_zero_of_rank_le {M : Matrix (Fin d) (Fin d) R} {o : SvdOut R d} (h : SpecM M o) (hkd : k < d)
    (hr : M.rank ≤ k) : o.s ⟨k, hkd⟩ = 0 := by
  refine Loewner.sorted_zero_of_rank_le h.nonneg h.sorted hkd ?_
  rwa [← h.recon, Matrix.rank_mul_eq_left_of_isUnit_det _ _ (Matrix.isUnit_det_of_left_inverse h.uut),
    Matrix.rank_mul_eq_right_of_isUnit_det _ _ (Matrix.isUnit_det_of_right_inverse h.uut)] at hr

theorem stepO_exact_of_cutoff_zero {M : Matrix (Fin d) (Fin d) R} {o : SvdOut R d} (h : SpecM M o) (hk : k ≤ d)
    (hc : cutoff k o = 0) (β t : R) : toM (sketch (stepO k β t o)) = M ∧ (stepO k β t o).t = β * t := by
  have hρ : rho k o = 0 := by rw [rho, hc, mul_zero]
  refine ⟨?_, by rw [stepO_t, hρ, add_zero]⟩
  have hfun : (fun c : Fin d => newEig k o c.1) = fun c : Fin d => o.s c * o.s c := by
    funext c
    have hb := newEig_bounds (k := k) h c
    rw [hρ, add_zero] at hb
    exact le_antisymm hb.1 hb.2
  rw [sketch_eq, sketchM_stepO hk, ← h.recon, hfun]

theorem stepO_exact_of_rank_le {M : Matrix (Fin d) (Fin d) R} {o : SvdOut R d} (h : SpecM M o) (hk : k ≤ d)
    (hr : M.rank ≤ k) (β t : R) : toM (sketch (stepO k β t o)) = M ∧ (stepO k β t o).t = β * t := by
  apply stepO_exact_of_cutoff_zero h hk
  unfold cutoff sAt
  split_ifs with hkd
  · exact sigma_zero_of_rank_le h hkd hr
  · rfl

end Spec

section Runs
variable {R : Type} [Field R] [LinearOrder R] {d k m : ℕ}

/-- the SVD kernel meets its specification on every matrix it is called with along the history -/
def SpecAlong (svd : SvdFn R d (k + m)) (sqrt : R → R) (β : R) : State R d k → List (Mat R d m) → Prop
  | _, [] => True
  | st, G :: gs => SvdSpec (fdB sqrt β st G) (svd (fdB sqrt β st G)) ∧ SpecAlong svd sqrt β (fdStep svd sqrt β st G) gs

/-- the same for SVD outputs supplied step by step -/
def SpecAlongO (sqrt : R → R) (β : R) : State R d k → List (Mat R d m × SvdOut R d) → Prop
  | _, [] => True
  | st, (G, o) :: rest => SvdSpec (fdB sqrt β st G) o ∧ SpecAlongO sqrt β (stepO k β st.t o) rest

/-- induction along a run: a relation between sketch state and exact second moment kept by every step holds at the end
(`hstep` only for the gradient factors of the history: the low-rank theorem knows something about those only) -/
theorem fdRunFrom_induction {P : State R d k → Matrix (Fin d) (Fin d) R → Prop} (svd : SvdFn R d (k + m))
    (sqrt : R → R) (β : R) (gs : List (Mat R d m))
    (hstep : ∀ G ∈ gs, ∀ st C, SvdSpec (fdB sqrt β st G) (svd (fdB sqrt β st G)) → P st C →
      P (fdStep svd sqrt β st G) (β • C + toM (outer G))) :
    ∀ (st : State R d k) (C : Mat R d d), SpecAlong svd sqrt β st gs → P st (toM C) →
      P (fdRunFrom svd sqrt β st gs) (toM (covFrom β C gs)) := by
  induction gs with
  | nil => intro st C _ hP; exact hP
  | cons G gs ih =>
    intro st C hs hP
    rw [fdRunFrom_cons, covFrom_cons]
    refine ih (fun G' hG' => hstep G' (List.mem_cons_of_mem _ hG')) _ _ hs.2 ?_
    rw [toM_decay_add_outer]
    exact hstep G (List.mem_cons_self ..) st (toM C) hs.1 hP

theorem fdRunO_induction {P : State R d k → Matrix (Fin d) (Fin d) R → Prop} (sqrt : R → R) (β : R)
    (hstep : ∀ (G : Mat R d m) st o C, SvdSpec (fdB sqrt β st G) o → P st C →
      P (stepO k β st.t o) (β • C + toM (outer G)))
    (steps : List (Mat R d m × SvdOut R d)) :
    ∀ (st : State R d k) (C : Mat R d d), SpecAlongO sqrt β st steps → P st (toM C) →
      P (fdRunO β st (steps.map Prod.snd)) (toM (covFrom β C (steps.map Prod.fst))) := by
  induction steps with
  | nil => intro st C _ hP; exact hP
  | cons p rest ih =>
    intro st C hs hP
    rw [List.map_cons, List.map_cons, fdRunO_cons, covFrom_cons]
    refine ih _ _ hs.2 ?_
    rw [toM_decay_add_outer]
    exact hstep p.1 st p.2 (toM C) hs.1 hP

variable [IsStrictOrderedRing R]

/-- the sketch state tracks `C` exactly inside the span of `W`: no escaped mass, `C = W X Wᵀ` -/
def TracksIn (W : Matrix (Fin d) (Fin k) R) (st : State R d k) (C : Matrix (Fin d) (Fin d) R) : Prop :=
  toM (sketch st) = C ∧ st.t = 0 ∧ (∀ a, 0 ≤ st.l a) ∧ ∃ X : Matrix (Fin k) (Fin k) R, C = W * X * Wᵀ

/-- a gradient factor inside the span of `W` keeps the Gram matrix handed to the SVD there, so its rank is at most `k` and
the step loses nothing -/
theorem TracksIn.step (sqrt : R → R) (hsq : ∀ x, 0 ≤ x → sqrt x * sqrt x = x) (β : R) (hβ : 0 ≤ β) (hk : k ≤ d)
    {W : Matrix (Fin d) (Fin k) R} {st : State R d k} {C : Matrix (Fin d) (Fin d) R} (hC : TracksIn W st C)
    (G : Mat R d m) (hG : ∃ A : Matrix (Fin k) (Fin m) R, toM G = W * A) (o : SvdOut R d)
    (h : SvdSpec (fdB sqrt β st G) o) : TracksIn W (stepO k β st.t o) (β • C + toM (outer G)) := by
  obtain ⟨hS, ht, hl, X, hX⟩ := hC
  obtain ⟨A, hA⟩ := hG
  have hs := h.specM
  rw [gram_fdB sqrt hsq β hβ st hl G, hS] at hs
  have hform : β • C + toM (outer G) = W * (β • X + A * Aᵀ) * Wᵀ := by
    rw [outer_eq, hX, hA, Matrix.transpose_mul]
    simp only [Matrix.mul_add, Matrix.add_mul, Matrix.mul_smul, Matrix.smul_mul, Matrix.mul_assoc]
  obtain ⟨e1, e2⟩ := stepO_exact_of_rank_le hs hk (by rw [hform]; exact Loewner.rank_conj_le _ _) β st.t
  exact ⟨e1, e2.trans (by rw [ht, mul_zero]), stepO_l_nonneg β st.t _, _, hform⟩

end Runs

section DShampoo
variable {R : Type} [Field R] {d k : ℕ}

theorem dsB_eq [Max R] (sqrt : R → R) (cfg : DsCfg R) (st : State R d k) (G : Mat R d d) :
    dsB sqrt cfg st G = fdB sqrt cfg.β (dsInput cfg st) (dsMaskG cfg.ps G) := rfl

theorem dsInput_t [Max R] (cfg : DsCfg R) (st : State R d k) : (dsInput cfg st).t = st.t := rfl

variable [LinearOrder R]

/-- with `padding_start > 0`, `_fd_update_root` returns the generic step: the clamp `where(new_tail <= 0, 0, new_tail)`
is the identity on `t' ≥ 0` -/
theorem dsFdUpdateRootO_st [Max R] (pw : R → R) (cfg : DsCfg R) (hps : cfg.ps ≠ 0) (st : State R d k) (o : SvdOut R d)
    (ht : 0 ≤ (stepO k cfg.β st.t o).t) : (dsFdUpdateRootO pw cfg st o).st = stepO k cfg.β st.t o := by
  have hclamp : (if 0 < (stepO k cfg.β st.t o).t then (stepO k cfg.β st.t o).t else 0) = (stepO k cfg.β st.t o).t := by
    rw [← max_def_lt, max_eq_right ht]
  simp only [dsFdUpdateRootO, if_neg hps, hclamp]

theorem decide_stepO_l_pos (β t : R) (o : SvdOut R d) (a : Fin k) :
    decide (0 < (stepO k β t o).l a) = kept k o a := by
  by_cases hka : kept k o a = true
  · rw [hka, decide_eq_true_iff, stepO_l_of_kept β t o hka]
    exact of_decide_eq_true hka
  · rw [stepO_l_of_not_kept β t o hka, decide_eq_false (lt_irrefl 0)]
    exact (Bool.eq_false_iff.mpr hka).symm

theorem decide_stepO_l_le_zero (β t : R) (o : SvdOut R d) (a : Fin k) :
    decide ((stepO k β t o).l a ≤ 0) = !(kept k o a) := by
  rw [← decide_stepO_l_pos β t o a, ← decide_not, decide_eq_decide]
  exact not_lt.symm

/-- `upshifted *= mask; where(upshifted <= 0, 0, upshifted ** alpha)` keeps `pw x` exactly on the mask when `x > 0` there -/
theorem masked_pow (pw : R → R) (x : R) (b : Bool) (hx : b = true → 0 < x) :
    (if x * ind b ≤ 0 then 0 else pw (x * ind b)) = if b = true then pw x else 0 := by
  cases b
  · simp [ind]
  · simp only [ind, if_true, mul_one, if_neg (not_le.mpr (hx rfl))]

theorem decide_clamp_le_zero (t : R) : decide ((if 0 < t then t else 0) ≤ 0) = !(decide (0 < t)) := by
  by_cases hp : 0 < t
  · rw [if_pos hp, decide_eq_false (not_le.mpr hp), decide_eq_true hp]; rfl
  · rw [if_neg hp, decide_eq_true le_rfl, decide_eq_false hp]; rfl

theorem guardPad_id (g : Guards R) (hthr : 0 ≤ g.thr) (ps : ℕ) (V : Mat R d k) (l : Vec R k)
    (hpad : ∀ i a, V i a * padIx ps i.1 = 0) : guardPad g ps V l = (V, l) := by
  have hm : ∀ a, padMass ps V a = 0 := by
    intro a
    unfold padMass
    rw [sumFin_eq]
    exact Finset.sum_eq_zero fun i _ => by rw [hpad i a, absV, if_neg (lt_irrefl 0)]
  have hd : ∀ a, decide (g.thr < padMass ps V a) = false := by
    intro a
    rw [hm a]
    exact decide_eq_false (not_lt.mpr hthr)
  unfold guardPad
  refine Prod.ext ?_ ?_
  · funext i a; simp only [hd a, ind, Bool.false_eq_true, if_false, sub_zero, mul_one]
  · funext a; simp only [hd a, ind, Bool.false_eq_true, if_false, sub_zero, mul_one]

/-- the rows `≥ padding_start` of the matrix `_fd_update_root` hands to the SVD are zero (both blocks are masked) -/
theorem dsB_row_zero (sqrt : R → R) (cfg : DsCfg R) (st : State R d k) (G : Mat R d d) (i : Fin d)
    (hi : cfg.ps ≤ i.1) (c : Fin (k + d)) : dsB sqrt cfg st G i c = 0 := by
  have hact : active (α := R) cfg.ps i.1 = 0 := by simp [active, not_lt.mpr hi]
  unfold dsB fdB
  induction c using Fin.addCases with
  | left a => rw [Fin.addCases_left]; simp [dsInput, hact]
  | right c => rw [Fin.addCases_right]; simp [dsMaskG, hact]

variable [IsStrictOrderedRing R]

theorem dsInput_l_nonneg (cfg : DsCfg R) (he : 0 ≤ cfg.ridgeEps) (htol : 0 ≤ cfg.tol) (st : State R d k)
    (hl : ∀ a, 0 ≤ st.l a) (a : Fin k) : 0 ≤ (dsInput cfg st).l a := by
  simp only [dsInput]
  apply mul_nonneg
  · apply add_nonneg (hl a)
    unfold dsRidge
    exact mul_nonneg he (le_trans htol (le_max_right _ _))
  · unfold active; split <;> simp

theorem kept_sq_pos {o : SvdOut R d} (a : Fin k) (hka : kept k o a = true) : 0 < sAt o.s a.1 * sAt o.s a.1 := by
  have h : 0 < deflRaw k o a := of_decide_eq_true hka
  rw [deflRaw, mul_comm, ← mul_self_sub_mul_self] at h
  exact h.trans_le (sub_le_self _ (mul_self_nonneg _))

/-- a kept column has Gram entry 1 (`stepO_colGram`), so its norm is `sqrt 1 = 1`, inside the window; a zeroed column and its
eigenvalue are 0 before and after -/
theorem guardNorm_id (sqrt : R → R) (hsq : ∀ x, 0 ≤ x → sqrt x * sqrt x = x) (hsnn : ∀ x, 0 ≤ x → 0 ≤ sqrt x)
    (g : Guards R) (hlo : g.lo ≤ 1) (hhi : 1 ≤ g.hi) {M : Matrix (Fin d) (Fin d) R} {o : SvdOut R d}
    (h : SpecM M o) (hk : k ≤ d) (β t : R) :
    guardNorm sqrt g (stepO k β t o).V (stepO k β t o).l = ((stepO k β t o).V, (stepO k β t o).l) := by
  have hnorm : ∀ a : Fin k, kept k o a = true → colNorm sqrt (stepO k β t o).V a = 1 := by
    intro a hka
    have := stepO_colGram h hk β t a a
    simp only [hka, and_self, if_true, colGram] at this
    unfold colNorm
    rw [this]
    have h1 := sqrt_mul_self_of_spec sqrt hsq hsnn (zero_le_one (α := R))
    rwa [mul_one] at h1
  have hsafe : safeNormed g (1 : R) = true := by
    simp [safeNormed, hlo, hhi]
  unfold guardNorm
  refine Prod.ext ?_ ?_
  · funext i a
    by_cases hka : kept k o a = true
    · simp only [hnorm a hka, hsafe, if_true, ind, mul_one, div_one]
    · simp only [stepO_V_of_not_kept β t o i hka, zero_mul, zero_div]
  · funext a
    by_cases hka : kept k o a = true
    · simp only [hnorm a hka, hsafe, if_true, ind, mul_one]
    · simp only [stepO_l_of_not_kept β t o hka, zero_mul]

theorem kept_col_zero_of_row_zero {M : Matrix (Fin d) (Fin d) R} {o : SvdOut R d} (h : SpecM M o) (hk : k ≤ d)
    (i : Fin d) (hrow : ∀ j, M i j = 0) (a : Fin k) (hka : kept k o a = true) : uAt o.U i a.1 = 0 := by
  have ha : a.1 < d := lt_of_lt_of_le a.2 hk
  have hpos := kept_sq_pos a hka
  rw [sAt_fin o.s ⟨a.1, ha⟩] at hpos
  exact (uAt_fin o.U i ⟨a.1, ha⟩).trans (Spectral.eigvec_zero_of_row_zero h.utu h.recon i hrow ⟨a.1, ha⟩ hpos.ne')

theorem ds_stepO_pad_zero (sqrt : R → R) (cfg : DsCfg R) (hk : k ≤ d) (st : State R d k) (G : Mat R d d)
    (o : SvdOut R d) (h : SvdSpec (dsB sqrt cfg st G) o) (β t : R) (i : Fin d) (a : Fin k) :
    (stepO k β t o).V i a * padIx cfg.ps i.1 = 0 := by
  by_cases hi : i.1 < cfg.ps
  · simp [padIx, hi]
  · by_cases hka : kept k o a = true
    · have hrow : ∀ j, toM (outer (dsB sqrt cfg st G)) i j = 0 := by
        intro j
        simp only [toM_apply, outer, sumFin_eq]
        exact Finset.sum_eq_zero fun c _ => by rw [dsB_row_zero sqrt cfg st G i (not_lt.mp hi) c, zero_mul]
      have := kept_col_zero_of_row_zero h.specM hk i hrow a hka
      rw [stepO_V_of_kept β t o i hka, this, zero_mul]
    · rw [stepO_V_of_not_kept β t o i hka, zero_mul]

end DShampoo

section Invariant
variable {R : Type} [Field R] [LinearOrder R] [StarRing R] {d k : ℕ}

/-- the invariant of a run: the sketch state `st` brackets `C`, `V diag(l) Vᵀ ≤ C ≤ V diag(l) Vᵀ + t·I`, with
`l ≥ 0`, `t ≥ 0` -/
def BracketInv (st : State R d k) (C : Matrix (Fin d) (Fin d) R) : Prop :=
  (C - toM (sketch st)).PosSemidef ∧ (toM (sketch st) + st.t • (1 : Matrix (Fin d) (Fin d) R) - C).PosSemidef ∧
    (∀ a, 0 ≤ st.l a) ∧ 0 ≤ st.t

theorem bracketInv_zero : BracketInv (State.zero d k : State R d k) 0 := by
  unfold BracketInv
  rw [sketch_zero, sub_zero, zero_add, sub_zero]
  exact ⟨PosSemidef.zero, by rw [show (State.zero d k : State R d k).t = 0 from rfl, zero_smul]; exact PosSemidef.zero,
    fun _ => le_rfl, le_rfl⟩

end Invariant

section Psd
variable {R : Type} [Field R] [LinearOrder R] [IsStrictOrderedRing R] [StarRing R] [TrivialStar R]
  [StarOrderedRing R] {d k m n : ℕ}

/-- **FD deflation lemma** (Loewner order): for `M = U diag(s²) Uᵀ` and the new sketch `New` keeping the
directions with `s_a² > ρ`, `New ≤ M ≤ New + ρ·I`. -/
theorem deflation {M : Matrix (Fin d) (Fin d) R} {o : SvdOut R d} (h : SpecM M o) (hk : k ≤ d) (β t : R) :
    (M - sketchM (stepO k β t o)).PosSemidef ∧
    (sketchM (stepO k β t o) + rho k o • (1 : Matrix (Fin d) (Fin d) R) - M).PosSemidef := by
  rw [sketchM_stepO hk, ← h.recon]
  exact Loewner.deflation (toM o.U) h.utu (rho_nonneg o) (fun c => (newEig_bounds h c).1)
    fun c => (newEig_bounds h c).2

/-- one deflation step keeps the bracket `sketch ≤ C ≤ sketch + t·I`, around `β·C + N`, whenever the matrix `B`
handed to the SVD has `B Bᵀ = β·sketch + N` (each code path builds its own `B`) -/
theorem stepO_bracket {n : ℕ} {B : Mat R d n} {N : Matrix (Fin d) (Fin d) R} (β : R) (hβ : 0 ≤ β) (hk : k ≤ d)
    (st : State R d k) (o : SvdOut R d) (h : SvdSpec B o) (hB : toM (outer B) = β • toM (sketch st) + N)
    (C : Matrix (Fin d) (Fin d) R) (hlo : (C - toM (sketch st)).PosSemidef)
    (hhi : (toM (sketch st) + st.t • (1 : Matrix (Fin d) (Fin d) R) - C).PosSemidef) :
    (β • C + N - toM (sketch (stepO k β st.t o))).PosSemidef ∧
    (toM (sketch (stepO k β st.t o)) + (stepO k β st.t o).t • (1 : Matrix (Fin d) (Fin d) R)
      - (β • C + N)).PosSemidef := by
  have hs := h.specM
  rw [hB] at hs
  rw [sketch_eq (stepO k β st.t o), stepO_t]
  exact Loewner.bracket_step hβ hlo hhi (deflation hs hk β st.t).1 (deflation hs hk β st.t).2

theorem BracketInv.step (sqrt : R → R) (hsq : ∀ x, 0 ≤ x → sqrt x * sqrt x = x) (β : R) (hβ : 0 ≤ β) (hk : k ≤ d)
    {st : State R d k} {C : Matrix (Fin d) (Fin d) R} (hC : BracketInv st C) (G : Mat R d m) (o : SvdOut R d)
    (h : SvdSpec (fdB sqrt β st G) o) : BracketInv (stepO k β st.t o) (β • C + toM (outer G)) := by
  obtain ⟨hlo, hhi, hl, ht⟩ := hC
  obtain ⟨h1, h2⟩ := stepO_bracket β hβ hk st o h (gram_fdB sqrt hsq β hβ st hl G) C hlo hhi
  exact ⟨h1, h2, stepO_l_nonneg β st.t o, stepO_t_nonneg β st.t hβ ht o⟩

set_option linter.unusedSectionVars false in
theorem sqrt_zero' (sqrt : R → R) (hsq : ∀ x, 0 ≤ x → sqrt x * sqrt x = x) : sqrt 0 = 0 :=
  sqrt_zero_of_spec sqrt hsq

end Psd

/- The OCO instance over `Model/FD`'s row-form `OcoState` (square `U`, like the other two code paths): C09's
`oco_update_bracket`. The OCO model proper (`Model/OCO.lean`, thin SVD with `Vt`) has its own bracket in `Lemmas/OCO.lean`
(C16's `oco_bracket`); both rest on `Loewner.deflation`. -/

section OcoField
variable {R : Type} [Field R] {k n : ℕ}

/-- the gradient as a one-column factor -/
def colOf (g : Vec R n) : Mat R n 1 := fun j _ => g j

theorem gram_ocoB (st : OcoState R k n) (g : Vec R n) :
    toM (outer (ocoB st g)) = toM (sketch st.denote) + toM (outer (colOf g)) := by
  ext i j
  have hN : outer (colOf g) i j = g i * g j := by simp [outer, colOf, sumFin_eq]
  rw [Matrix.add_apply, toM_apply, toM_apply, toM_apply, hN]
  simp only [outer, sketch, sumFin_eq, ocoB, Fin.sum_univ_castSucc, OcoState.denote, if_true, Fin.castSucc_ne_last,
    if_false]
  congr 1
  refine Finset.sum_congr rfl fun a _ => ?_
  ring

theorem ocoFdUpdateO_denote (sqrt : R → R) (st : OcoState R k n) (o : SvdOut R n) :
    (ocoFdUpdateO sqrt st o).denote = { V := fun j a => uAt o.U j a.1
                                        l := fun a => sqrt (deflRaw k o a) * sqrt (deflRaw k o a)
                                        t := st.t + rho k o } := rfl

end OcoField

section OcoOrdered
variable {R : Type} [Field R] [LinearOrder R] [IsStrictOrderedRing R] {k n : ℕ}

/-- the OCO update keeps every row of `vt` (no masking); the sketch it denotes is the generic one -/
theorem oco_sketch_eq (sqrt : R → R) (hsq : ∀ x, 0 ≤ x → sqrt x * sqrt x = x) {M : Matrix (Fin n) (Fin n) R}
    (st : OcoState R k n) (o : SvdOut R n) (h : SpecM M o) :
    toM (sketch (ocoFdUpdateO sqrt st o).denote) = toM (sketch (stepO k 1 st.t o)) ∧
    (ocoFdUpdateO sqrt st o).t = (stepO k 1 st.t o).t := by
  refine ⟨?_, by rw [stepO_t, one_mul]; rfl⟩
  ext i j
  simp only [toM_apply, sketch, sumFin_eq]
  refine Finset.sum_congr rfl fun a _ => ?_
  have hraw : 0 ≤ deflRaw k o a :=
    mul_nonneg (sub_nonneg.mpr (sAt_antitone h a.2.le)) (add_nonneg (sAt_nonneg h.nonneg _) (cutoff_nonneg h.nonneg))
  rw [stepO_V_l_V_eq, newEig_eq_deflRaw_of_nonneg o a hraw, ocoFdUpdateO_denote]
  dsimp only
  rw [hsq _ hraw]

end OcoOrdered

section OcoPsd
variable {R : Type} [Field R] [LinearOrder R] [IsStrictOrderedRing R] [StarRing R] [TrivialStar R]
  [StarOrderedRing R] {d k m n : ℕ}

theorem oco_bracket (sqrt : R → R) (hsq : ∀ x, 0 ≤ x → sqrt x * sqrt x = x) (hk : k ≤ n)
    (st : OcoState R k n) (g : Vec R n) (o : SvdOut R n) (h : SvdSpec (ocoB st g) o)
    (C : Matrix (Fin n) (Fin n) R) (hlo : (C - sketchM st.denote).PosSemidef)
    (hhi : (sketchM st.denote + st.t • (1 : Matrix (Fin n) (Fin n) R) - C).PosSemidef) :
    (C + toM (colOf g) * (toM (colOf g))ᵀ - sketchM (ocoFdUpdateO sqrt st o).denote).PosSemidef ∧
    (sketchM (ocoFdUpdateO sqrt st o).denote + (ocoFdUpdateO sqrt st o).t • (1 : Matrix (Fin n) (Fin n) R)
      - (C + toM (colOf g) * (toM (colOf g))ᵀ)).PosSemidef := by
  rw [← sketch_eq] at hlo hhi ⊢
  rw [← outer_eq]
  obtain ⟨e1, e2⟩ := oco_sketch_eq sqrt hsq st o h.specM
  have := stepO_bracket (k := k) 1 zero_le_one hk st.denote o h (by rw [one_smul]; exact gram_ocoB st g) C hlo hhi
  rw [one_smul] at this
  rw [e1, e2]
  exact this

end OcoPsd

section Cut
variable {α : Type} [Zero α] {D k : ℕ}

theorem publicReload_V (dim : ℕ) (st : State α D k) (inv : Vec α k) (c f : α) (i : Fin D) (a : Fin k) :
    (publicReload dim st inv c f).V i a = if i.1 < dim then st.V i a else 0 := by
  simp [publicReload, unpackState, cutRepad, packState, packN]

theorem publicReload_l (dim : ℕ) (st : State α D k) (inv : Vec α k) (c f : α) (a : Fin k) :
    (publicReload dim st inv c f).l a = if D - k + a.1 < dim then st.l a else 0 := by
  have h1 : ¬ (k + 1 < k) := by omega
  simp [publicReload, unpackState, cutRepad, packState, packN, h1]

theorem publicReload_t (hD : k + 2 < D) (dim : ℕ) (hdim : 1 < dim) (st : State α D k) (inv : Vec α k) (c f : α) :
    (publicReload dim st inv c f).t = st.t := by
  have h1 : ¬ (k + 1 < k) := by omega
  have h3 : ¬ (D - k ≤ 1) := by omega
  simp [publicReload, unpackState, cutRepad, packState, packN, h1, h3, hdim]

end Cut

end PrecondVerif.FD
