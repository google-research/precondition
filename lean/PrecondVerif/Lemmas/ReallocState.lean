/-
Lemmas for the scoring / traversal / returned-dict model of C17 (`Model/ReallocState.lean`): scores computed on
states that meet the Sketchy invariants are non-negative (the `_nonneg` chain up to `axesFor_spec`; `C17.scores_nonneg`), and the
returned dict read as a finite map from layer directory to row (`buildMap_spec`, which `C17.redist_dict_total` cites; its
main lemma is `writeAll_spec`).
-/
import PrecondVerif.Lemmas.Realloc
import PrecondVerif.Model.ReallocState

namespace PrecondVerif.Realloc

section
variable {α : Type}

theorem sketchesAll_mapsE : MapsE sketchesOf (sketchesAll (α := α)) := by
  refine ⟨rfl, fun st sts => ?_⟩
  rw [sketchesAll]
  cases sketchesOf st with
  | error e => rfl
  | ok sk => cases sketchesAll sts <;> rfl

theorem statsOf_mapsE [Add α] [Div α] [OfNat α 0] [LT α] [DecidableLT α] (rule : Rule) (name : Path) :
    MapsE (statOf (α := α) rule name) (statsOf rule name) := by
  refine ⟨rfl, fun sk sks => ?_⟩
  rw [statsOf]
  cases statOf rule name sk with
  | error e => rfl
  | ok v => cases statsOf rule name sks <;> rfl

theorem axesFor_mapsE [Add α] [Mul α] [Div α] [OfNat α 0] [LT α] [DecidableLT α] (ofNat : Nat → α) (recip : Bool)
    (rule : Rule) (last : Tree α) (sks : List (Tree α)) :
    MapsE (fun name => dimOf last name >>= fun d => scoreOf ofNat recip rule sks name >>= fun s => .ok (name, d, s))
      (axesFor ofNat recip rule last sks) := by
  refine ⟨rfl, fun name rest => ?_⟩
  show axesFor ofNat recip rule last sks (name :: rest) =
    (dimOf last name >>= fun d => scoreOf ofNat recip rule sks name >>= fun s => .ok (name, d, s)) >>=
      fun x => axesFor ofNat recip rule last sks rest >>= fun xs => .ok (x :: xs)
  rw [axesFor]
  cases dimOf last name with
  | error e => rfl
  | ok d =>
    cases scoreOf ofNat recip rule sks name with
    | error e => rfl
    | ok s => cases axesFor ofNat recip rule last sks rest <;> rfl

/-- every group key read in `sk` is at least 1 (`dim` fields and `eigvecs.shape[0]`) -/
def DimInv (sk : Tree α) : Prop :=
  ∀ (name : Path) (node : Tree α), sk.getPath? name = some node →
    (∀ n, node.get? "dim" = some (.leaf (.int n)) → 1 ≤ n) ∧
    (∀ d ds, node.get? "eigvecs" = some (.leaf (.shape (d :: ds))) → 1 ≤ d)

/-- arms of `dimOf` in order: path missing; then `dim` is an int / something else / absent, and in the last case `eigvecs`
has a shape with a first entry / is something else / is absent -/
theorem dimOf_ge_one (sk : Tree α) (h : DimInv sk) (name : Path) (d : Nat) (hd : dimOf sk name = .ok d) : 1 ≤ d := by
  unfold dimOf at hd
  split at hd
  · cases hd
  next node hnode =>
    split at hd
    next n hn =>
      cases hd
      exact (h name node hnode).1 _ hn
    · cases hd
    · split at hd
      next d' ds hd' =>
        cases hd
        exact (h name node hnode).2 _ _ hd'
      · cases hd
      · cases hd

variable [Field α] [LinearOrder α]

/-- The Sketchy state invariants the scoring relies on (C09: `stepO_l_nonneg`, `stepO_t_nonneg` give
`eigvals ≥ 0`, `tail ≥ 0`; `ema_ggt` is an EMA of Gram matrices, so its diagonal is `≥ 0`; the spectral
norm returned by the external kernel is `≥ 0`). -/
def LeafInv : Leaf α → Prop
  | .scalar x => 0 ≤ x
  | .vec xs => ∀ x ∈ xs, 0 ≤ x
  | .mat rows nrm => (∀ x ∈ diagFrom 0 rows, 0 ≤ x) ∧ 0 ≤ nrm
  | _ => True

theorem maxL_nonneg (xs : List α) (h : ∀ x ∈ xs, 0 ≤ x) : 0 ≤ maxL xs := by
  cases xs with
  | nil => simp [maxL]
  | cons x xs =>
    refine List.foldlRecOn (motive := (0 ≤ ·)) xs _ (h x List.mem_cons_self) fun s hs b hb => ?_
    split
    · exact h b (List.mem_cons_of_mem _ hb)
    · exact hs

variable [IsStrictOrderedRing α]

theorem total_nonneg (xs : List α) (h : ∀ x ∈ xs, 0 ≤ x) : 0 ≤ total xs :=
  List.foldlRecOn (motive := (0 ≤ ·)) xs (· + ·) le_rfl fun _ hs b hb => add_nonneg hs (h b hb)

theorem opVal_nonneg (rule : Rule) (l : Leaf α) (hl : LeafInv l) (v : α) (hv : opVal rule l = some v) : 0 ≤ v := by
  unfold opVal at hv
  split at hv <;> cases hv
  · exact hl
  · exact total_nonneg _ hl
  · split
    · exact div_nonneg (total_nonneg _ hl) (maxL_nonneg _ hl)
    · exact le_rfl
  · exact total_nonneg _ hl.1
  · exact div_nonneg (total_nonneg _ hl.1) hl.2

theorem meanL_nonneg (ofNat : Nat → α) (hof : ∀ n, 0 ≤ ofNat n) (recip : Bool) (vs : List α)
    (h : ∀ x ∈ vs, 0 ≤ x) : 0 ≤ meanL ofNat recip vs := by
  unfold meanL
  split
  · exact mul_nonneg (total_nonneg _ h) (div_nonneg (hof _) (hof _))
  · exact div_nonneg (total_nonneg _ h) (hof _)

/-- every statistic leaf `rule` reads anywhere in `sk` satisfies the state invariants -/
def ReadInv (rule : Rule) (sk : Tree α) : Prop :=
  ∀ (name : Path) (node : Tree α) (l : Leaf α), sk.getPath? name = some node →
    node.get? rule.target = some (.leaf l) → LeafInv l

/-- arms of `statOf` in order: path missing; then the target key is missing / a dict / a leaf, and for a leaf `opVal`
applies or not -/
theorem statOf_nonneg (rule : Rule) (name : Path) (sk : Tree α) (h : ReadInv rule sk) (v : α)
    (hv : statOf rule name sk = .ok v) : 0 ≤ v := by
  unfold statOf at hv
  split at hv
  · cases hv
  next node hnode =>
    split at hv
    · cases hv
    · cases hv
    next l hl =>
      split at hv
      next v' hv' =>
        cases hv
        exact opVal_nonneg rule l (h name node l hnode hl) _ hv'
      · cases hv

theorem statsOf_nonneg (rule : Rule) (name : Path) (sks : List (Tree α)) (h : ∀ sk ∈ sks, ReadInv rule sk)
    (vs : List α) (hv : statsOf rule name sks = .ok vs) : ∀ v ∈ vs, 0 ≤ v := by
  intro v hv'
  obtain ⟨sk, hsk, hst⟩ := (statsOf_mapsE rule name).ok_mem hv v hv'
  exact statOf_nonneg rule name sk (h sk hsk) v hst

theorem scoreOf_nonneg (ofNat : Nat → α) (hof : ∀ n, 0 ≤ ofNat n) (recip : Bool) (rule : Rule)
    (sks : List (Tree α)) (h : ∀ sk ∈ sks, ReadInv rule sk) (name : Path) (s : α)
    (hs : scoreOf ofNat recip rule sks name = .ok s) : 0 ≤ s := by
  unfold scoreOf at hs
  split at hs
  · cases hs
  next vs hvs =>
    cases hs
    exact meanL_nonneg ofNat hof recip vs (statsOf_nonneg rule name sks h vs hvs)

theorem axesFor_spec (ofNat : Nat → α) (hof : ∀ n, 0 ≤ ofNat n) (recip : Bool) (rule : Rule)
    (last : Tree α) (hdim : DimInv last) (sks : List (Tree α)) (h : ∀ sk ∈ sks, ReadInv rule sk)
    (order : List Path) (axes : List (Path × Nat × α))
    (ha : axesFor ofNat recip rule last sks order = .ok axes) :
    axes.map Prod.fst = order ∧ ∀ a ∈ axes, 1 ≤ a.2.1 ∧ 0 ≤ a.2.2 := by
  have hm := axesFor_mapsE ofNat recip rule last sks
  -- what one step returns for `name`: its own name, a group key and a score
  have step : ∀ name a, (dimOf last name >>= fun d => scoreOf ofNat recip rule sks name >>= fun s =>
      (.ok (name, d, s) : Except TErr (Path × Nat × α))) = .ok a → a.1 = name ∧ 1 ≤ a.2.1 ∧ 0 ≤ a.2.2 := by
    intro name a hf
    obtain ⟨d, hd, hf⟩ := bind_ok.mp hf
    obtain ⟨s, hs, hf⟩ := bind_ok.mp hf
    cases hf
    exact ⟨rfl, dimOf_ge_one last hdim name d hd, scoreOf_nonneg ofNat hof recip rule sks h name s hs⟩
  refine ⟨hm.ok_map Prod.fst (fun name a hf => (step name a hf).1) ha, fun a ha' => ?_⟩
  obtain ⟨name, _, hf⟩ := hm.ok_mem ha a ha'
  exact (step name a hf).2

/-- the invariants of a tuple of optimizer states, as far as `rule` reads them -/
def StatesInv (rule : Rule) (states : List (Tree α)) : Prop :=
  ∀ st ∈ states, ∀ sk, sketchesOf st = .ok sk → ReadInv rule sk ∧ DimInv sk

end

theorem lookupRow_setRow (dir : Path) (row : List Int) (m : PathMap) (d : Path) :
    lookupRow d (setRow dir row m) = if dir = d then some row else lookupRow d m := by
  induction m with
  | nil => simp [setRow, lookupRow]
  | cons e m ih =>
    obtain ⟨d0, r0⟩ := e
    by_cases h0 : d0 = dir
    · subst h0
      by_cases hd : d0 = d <;> simp [setRow, lookupRow, hd]
    · by_cases hd : d0 = d
      · subst hd
        have : ¬ dir = d0 := fun h => h0 h.symm
        simp [setRow, lookupRow, h0, this]
      · simp [setRow, lookupRow, h0, hd, ih]

/-- arms of `skeleton` on `name :: rest` in order: empty layer directory; the rest fails; the rest gives `m0` -/
theorem skeleton_rows (n : Nat) (order : List Path) (m : PathMap) (h : skeleton n order = .ok m) :
    ∀ d row, lookupRow d m = some row → row = List.replicate n 0 ∧ ∃ name ∈ order, layerDir name = d := by
  induction order generalizing m with
  | nil => cases h; exact fun d row hrow => nomatch hrow
  | cons name rest ih =>
    unfold skeleton at h
    split at h
    · cases h
    · split at h
      · cases h
      next m0 hm0 =>
        cases h
        intro d row hrow
        rw [lookupRow_setRow] at hrow
        split at hrow
        next hd =>
          cases hrow
          exact ⟨rfl, name, List.mem_cons_self, hd⟩
        · obtain ⟨e1, nm, hnm, e2⟩ := ih m0 hm0 d row hrow
          exact ⟨e1, nm, List.mem_cons_of_mem _ hnm, e2⟩

/-- arms of `writeSlot` in order: no axis id; no row at the directory; slot inside the row / outside -/
theorem writeSlot_spec (name : Path) (r : Int) (m m' : PathMap) (h : writeSlot name r m = .ok m') :
    ∃ i row, axisId name = some i ∧ lookupRow (layerDir name) m = some row ∧ i < row.length ∧
      ∀ d, lookupRow d m' = if layerDir name = d then some (row.set i r) else lookupRow d m := by
  unfold writeSlot at h
  split at h
  · cases h
  next i hi =>
    split at h
    · cases h
    next row hrow =>
      split at h
      next hlt =>
        cases h
        exact ⟨i, row, hi, hrow, hlt, fun d => lookupRow_setRow _ _ _ d⟩
      · cases h

theorem writeSlot_getSlot (name : Path) (r : Int) (m m' : PathMap) (h : writeSlot name r m = .ok m') :
    ∃ i, axisId name = some i ∧
      (∀ d j, getSlot m' d j = if layerDir name = d ∧ i = j then some r else getSlot m d j) ∧
      (∀ d row', lookupRow d m' = some row' → ∃ row, lookupRow d m = some row ∧ row'.length = row.length) := by
  obtain ⟨i, row, hi, hrow, hlt, hl⟩ := writeSlot_spec name r m m' h
  refine ⟨i, hi, ?_, ?_⟩
  · intro d j
    unfold getSlot
    rw [hl d]
    by_cases hd : layerDir name = d
    · subst hd
      simp only [if_true, true_and, hrow]
      by_cases hij : i = j
      · subst hij; simp [hlt]
      · simp [hij]
    · simp [hd]
  · intro d row' h'
    rw [hl d] at h'
    split at h'
    next hd =>
      cases h'
      exact ⟨row, hd ▸ hrow, List.length_set⟩
    · exact ⟨row', h', rfl⟩

/-- What a run of writes does to the dict, read through `lookupRow` / `getSlot`: (1) rows keep their lengths, no row appears;
(2) a slot that no write names keeps its value; (3) a value found afterwards was there before or was written to that slot;
(4) if no two writes name the same slot, every write is read back.  (2) is what lets (4) survive the later writes. -/
theorem writeAll_spec (ws : List (Path × Int)) (m m' : PathMap) (h : writeAll ws m = .ok m') :
    (∀ d row', lookupRow d m' = some row' → ∃ row, lookupRow d m = some row ∧ row'.length = row.length) ∧
    (∀ d j, (∀ w ∈ ws, slotOf w.1 ≠ (d, some j)) → getSlot m' d j = getSlot m d j) ∧
    (∀ d j v, getSlot m' d j = some v → getSlot m d j = some v ∨ ∃ w ∈ ws, w.2 = v ∧ slotOf w.1 = (d, some j)) ∧
    ((ws.map (fun w => slotOf w.1)).Nodup → ∀ w ∈ ws, ∃ i, axisId w.1 = some i ∧ getSlot m' (layerDir w.1) i = some w.2) := by
  induction ws generalizing m with
  | nil =>
    cases h
    exact ⟨fun _ row' h' => ⟨row', h', rfl⟩, fun _ _ _ => rfl, fun _ _ _ hv => .inl hv, fun _ _ hw => nomatch hw⟩
  | cons w rest ih =>
    obtain ⟨name, r⟩ := w
    unfold writeAll at h
    split at h
    · cases h
    next m1 hm1 =>
      obtain ⟨i, hi, hg, hlen⟩ := writeSlot_getSlot name r m m1 hm1
      obtain ⟨h1, h2, h3, h4⟩ := ih m1 h
      refine ⟨fun d row' h' => ?_, ?_, ?_, ?_⟩
      · obtain ⟨row1, hr1, e1⟩ := h1 d row' h'
        obtain ⟨row0, hr0, e0⟩ := hlen d row1 hr1
        exact ⟨row0, hr0, e1.trans e0⟩
      · intro d j hw
        rw [h2 d j (fun w hw' => hw w (List.mem_cons_of_mem _ hw')), hg d j]
        have := hw (name, r) List.mem_cons_self
        simp only [slotOf, hi, ne_eq, Prod.mk.injEq, Option.some.injEq] at this
        simp [this]
      · intro d j v hv
        rcases h3 d j v hv with h' | ⟨w, hw, e1, e2⟩
        · rw [hg d j] at h'
          split at h'
          next hc =>
            cases h'
            exact Or.inr ⟨(name, r), List.mem_cons_self, rfl, by simp [slotOf, hi, hc.1, hc.2]⟩
          · exact Or.inl h'
        · exact Or.inr ⟨w, List.mem_cons_of_mem _ hw, e1, e2⟩
      · intro hnd w hw
        simp only [List.map_cons, List.nodup_cons] at hnd
        rcases List.mem_cons.mp hw with rfl | hw
        · refine ⟨i, hi, ?_⟩
          rw [h2 (layerDir name) i ?_, hg]
          · simp
          · intro w' hw' heq
            apply hnd.1
            rw [List.mem_map]
            exact ⟨w', hw', by rw [heq]; simp [slotOf, hi]⟩
        · exact h4 hnd.2 w hw

/-- The returned dict, whatever `out` holds: every `(name, rank)` of `out` is read back at its slot, every row has
`numAxes` slots and sits at the directory of a name of `order`, every slot holds 0 or a rank of `out` written there.
Arms of `buildMap` in order: a directory is a prefix of another; then the slots are distinct (and `skeleton` fails / gives
`m0`, on which `writeAll` runs) or they are not. -/
theorem buildMap_spec (n : Nat) (order : List Path) (out : List (Nat × List (Path × Int))) (m : PathMap)
    (hm : buildMap n order out = .ok m) :
    (∀ w ∈ flatRanks out, ∃ i, axisId w.1 = some i ∧ getSlot m (layerDir w.1) i = some w.2) ∧
    (∀ d row, lookupRow d m = some row → row.length = n ∧ ∃ name ∈ order, layerDir name = d) ∧
    (∀ d j v, getSlot m d j = some v →
      v = 0 ∨ ∃ w ∈ flatRanks out, w.2 = v ∧ layerDir w.1 = d ∧ axisId w.1 = some j) := by
  unfold buildMap at hm
  split at hm
  · cases hm
  · split at hm
    next hnd =>
      split at hm
      · cases hm
      next m0 hsk =>
        obtain ⟨h1, _, h3, h4⟩ := writeAll_spec _ m0 m hm
        have s2 := skeleton_rows n _ m0 hsk
        refine ⟨h4 hnd, fun d row hrow => ?_, fun d j v hv => ?_⟩
        · obtain ⟨row0, h0, hl⟩ := h1 d row hrow
          obtain ⟨e1, hname⟩ := s2 d row0 h0
          exact ⟨by rw [hl, e1, List.length_replicate], hname⟩
        · rcases h3 d j v hv with h0 | ⟨w, hw, e1, e2⟩
          · unfold getSlot at h0
            split at h0
            next row0 hrow0 =>
              rw [(s2 d row0 hrow0).1] at h0
              exact .inl (List.getElem_replicate .. ▸ (List.getElem?_eq_some_iff.mp h0).2).symm
            · cases h0
          · rw [slotOf, Prod.mk.injEq] at e2
            exact .inr ⟨w, hw, e1, e2.1, e2.2⟩
    · cases hm

end PrecondVerif.Realloc
