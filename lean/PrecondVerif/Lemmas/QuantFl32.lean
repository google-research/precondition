/-
The executed rounding `roundNE` (behind `fl32` and, through `roundToFormat`, `bf16Round` of `Model/Quant.lean`) obeys the
relative error model of `Lemmas/QuantFp.lean` on the normal range, and the executed guard `normalColB` is `NormalCol`.
-/
import PrecondVerif.Lemmas.QuantFp
import Mathlib.Algebra.Order.Field.Power

namespace PrecondVerif.Quant

/-- `2 ^ floorLog2 a ≤ a` for positive rationals (`Nat.log2_self_le`, `Nat.lt_log2_self`) -/
theorem floorLog2_le (a : ℚ) (ha : 0 < a) : (2 : ℚ) ^ (floorLog2 a) ≤ a := by
  unfold floorLog2
  simp only
  split
  · rename_i h1
    split
    · rename_i h2; exact h2
    · exact h1
  · have hnum : 0 < a.num := Rat.num_pos.mpr ha
    have hn0 : a.num.toNat ≠ 0 := by omega
    have h1 := Nat.log2_self_le hn0
    have h2 := @Nat.lt_log2_self a.den
    have hd : (0 : ℚ) < (a.den : ℚ) := by exact_mod_cast a.den_pos
    have hnq : ((a.num.toNat : ℕ) : ℚ) = (a.num : ℚ) := by
      have : ((a.num.toNat : ℕ) : ℤ) = a.num := Int.toNat_of_nonneg hnum.le
      exact_mod_cast this
    have ha' : a = (a.num.toNat : ℚ) / (a.den : ℚ) := by rw [hnq]; exact (Rat.num_div_den a).symm
    have e : (2 : ℚ) ^ ((a.num.toNat.log2 : ℤ) - (a.den.log2 : ℤ) - 1)
        = (2 : ℚ) ^ a.num.toNat.log2 / (2 : ℚ) ^ (a.den.log2 + 1) := by
      rw [show ((a.num.toNat.log2 : ℤ) - (a.den.log2 : ℤ) - 1)
          = (a.num.toNat.log2 : ℤ) - ((a.den.log2 + 1 : ℕ) : ℤ) by push_cast; ring]
      rw [zpow_sub₀ (by norm_num), zpow_natCast, zpow_natCast]
    rw [e]
    have h1q : (2 : ℚ) ^ a.num.toNat.log2 ≤ (a.num.toNat : ℚ) := by exact_mod_cast h1
    have h2q : (a.den : ℚ) ≤ (2 : ℚ) ^ (a.den.log2 + 1) := by exact_mod_cast h2.le
    conv_rhs => rw [ha']
    exact div_le_div₀ (by positivity) h1q hd h2q

/-- what `roundNE` computes off zero: `round(x / ulp) · ulp` with `ulp = 2^(e - p + 1)`, `e = max ⌊log₂ |x|⌋ emin` -/
theorem roundNE_of_ne_zero (p : Nat) (emin : Int) {x : ℚ} (hx : x ≠ 0) :
    roundNE p emin x =
      (roundHalfEven (x / (2 : ℚ) ^ (max (floorLog2 |x|) emin - (p : ℤ) + 1)) : ℚ) *
        (2 : ℚ) ^ (max (floorLog2 |x|) emin - (p : ℤ) + 1) := by
  rw [roundNE, if_neg hx]
  simp only
  rw [show (if x < 0 then -x else x) = |x| from absG_eq x, max_def_lt]

/-- round-to-nearest-even to `p` bits: relative error `≤ 2^-p` on `|x| ≥ 2^emin` (no upper limit: `roundNE`
has unbounded exponents above) -/
theorem roundNE_err (p : Nat) (emin : Int) (x : ℚ) (hx : (2 : ℚ) ^ emin ≤ |x|) :
    |roundNE p emin x - x| ≤ (2 : ℚ) ^ (-(p : ℤ)) * |x| := by
  -- `2^e ≤ |x|` for the exponent `e` of `roundNE_of_ne_zero`: `round_err` gives `≤ ulp / 2 = 2^(-p) · 2^e`
  have hpos : (0 : ℚ) < (2 : ℚ) ^ emin := by positivity
  have hx0 : x ≠ 0 := by
    intro h; rw [h, abs_zero] at hx; exact absurd hx (not_le.mpr hpos)
  rw [roundNE_of_ne_zero p emin hx0]
  generalize he : max (floorLog2 |x|) emin = e
  have h2e : (2 : ℚ) ^ e ≤ |x| := by
    rw [← he]
    rcases max_choice (floorLog2 |x|) emin with h | h <;> rw [h]
    · exact floorLog2_le _ (abs_pos.mpr hx0)
    · exact hx
  have hulp : (0 : ℚ) < (2 : ℚ) ^ (e - (p : ℤ) + 1) := by positivity
  have hr := round_err (x / (2 : ℚ) ^ (e - (p : ℤ) + 1))
  have e1 : ((roundHalfEven (x / (2 : ℚ) ^ (e - (p : ℤ) + 1)) : Int) : ℚ) * (2 : ℚ) ^ (e - (p : ℤ) + 1) - x
      = (((roundHalfEven (x / (2 : ℚ) ^ (e - (p : ℤ) + 1)) : Int) : ℚ) - x / (2 : ℚ) ^ (e - (p : ℤ) + 1))
          * (2 : ℚ) ^ (e - (p : ℤ) + 1) := by
    field_simp
  have e2 : (2 : ℚ) ^ (e - (p : ℤ) + 1) = (2 : ℚ) ^ (-(p : ℤ)) * (2 : ℚ) ^ e * 2 := by
    rw [← zpow_add₀ (by norm_num : (2 : ℚ) ≠ 0), ← zpow_add_one₀ (by norm_num : (2 : ℚ) ≠ 0)]
    congr 1; ring
  rw [e1, abs_mul, abs_of_pos hulp]
  calc |((roundHalfEven (x / (2 : ℚ) ^ (e - (p : ℤ) + 1)) : Int) : ℚ) - x / (2 : ℚ) ^ (e - (p : ℤ) + 1)|
          * (2 : ℚ) ^ (e - (p : ℤ) + 1)
        ≤ 1 / 2 * (2 : ℚ) ^ (e - (p : ℤ) + 1) := mul_le_mul_of_nonneg_right hr hulp.le
    _ = (2 : ℚ) ^ (-(p : ℤ)) * (2 : ℚ) ^ e := by rw [e2]; ring
    _ ≤ (2 : ℚ) ^ (-(p : ℤ)) * |x| := mul_le_mul_of_nonneg_left h2e (by positivity)

/-- the overflow-checked rounding agrees with `roundNE` whenever it returns a value -/
theorem roundToFormat_eq_roundNE {p : Nat} {emin emax : Int} {x r : ℚ}
    (h : roundToFormat p emin emax x = some r) : r = roundNE p emin x := by
  unfold roundToFormat at h
  unfold roundNE
  by_cases hx : x = 0
  · rw [if_pos hx] at h ⊢; exact (Option.some.inj h).symm
  · rw [if_neg hx] at h ⊢
    simp only at h ⊢
    split_ifs at h ⊢ <;> (cases h; rfl)

/-- `roundNE_err` at the minimum normal exponent of float32 and bfloat16 -/
theorem roundNE_err_126 (p : Nat) (x : ℚ) (hx : (1 : ℚ) / 2 ^ 126 ≤ |x|) :
    |roundNE p (-126) x - x| ≤ 1 / 2 ^ p * |x| := by
  have e : ∀ n : ℕ, (2 : ℚ) ^ (-(n : ℤ)) = 1 / 2 ^ n := fun n => by rw [zpow_neg, zpow_natCast, one_div]
  have h := roundNE_err p (-((126 : ℕ) : ℤ)) x (by rwa [e])
  rwa [e] at h

/-- float32 rounding obeys the standard model at zero and on the normal range `|t| ≥ 2⁻¹²⁶` -/
theorem fl32_FlOKAbove : FlOKAbove fl32 (1 / 2 ^ 24) (1 / 2 ^ 126) := by
  rintro t (rfl | ht)
  · simp [FlOK, fl32, roundNE]
  · exact roundNE_err_126 24 t ht

/-- the Boolean guard the driver evaluates is the guard of the theorems -/
theorem normalColB_iff (lo : ℚ) (N : Nat) (col : List ℚ) :
    normalColB lo N col = true ↔ NormalCol lo N col := by
  unfold normalColB NormalCol
  simp only [Bool.or_eq_true, Bool.and_eq_true, decide_eq_true_eq, List.all_eq_true, absG_eq, and_assoc]

end PrecondVerif.Quant
