/-
Lemmas for C05 (grafting). The grafting identities need three facts about scaling and norm (`NormLike`); they hold for
the executable list model with any square root meeting `SqrtSpec` and for every real normed space, so each identity is
proved once over `NormLike`. The wrappers of `_transform_grad` and of Tearfree's `_graft_with` are characterised around an
ARBITRARY graft step vector (`dsApplyGraft_*`, `tfApplyGraft_*`); what `dsTransform` / `tfTransform` do is an instance.
All closed-form graft steps with an accumulator are instances of one closed form over any weights and any view of the
gradients (`diagStep_accRun_getElem?`).
-/
import PrecondVerif.Model.Graft
import Mathlib.Analysis.Normed.Module.Basic
import Mathlib.Analysis.Real.Sqrt

namespace PrecondVerif.Graft

/-- the three facts about scaling and norm the grafting identities use -/
structure NormLike {α V : Type} [Field α] [LinearOrder α] [IsStrictOrderedRing α]
    (ops : VecOps α V) : Prop where
  nrm_nonneg : ∀ v, 0 ≤ ops.nrm v
  nrm_smul : ∀ c v, ops.nrm (ops.smul c v) = |c| * ops.nrm v
  /-- a vector of norm zero is the zero vector: scaling does not change it -/
  smul_null : ∀ c v, ops.nrm v = 0 → ops.smul c v = v

/-- Specification of the square-root kernel (a parameter of the model). -/
def SqrtSpec {α : Type} [Field α] [LinearOrder α] (sqrt : α → α) : Prop :=
  ∀ x, 0 ≤ x → 0 ≤ sqrt x ∧ sqrt x * sqrt x = x

theorem realSqrtSpec : SqrtSpec Real.sqrt :=
  fun x hx => ⟨Real.sqrt_nonneg x, Real.mul_self_sqrt hx⟩

noncomputable def normedOps (E : Type) [NormedAddCommGroup E] [NormedSpace ℝ E] : VecOps ℝ E :=
  ⟨fun c v => c • v, fun v => ‖v‖⟩

theorem normedOps_smul (E : Type) [NormedAddCommGroup E] [NormedSpace ℝ E] (c : ℝ) (v : E) :
    (normedOps E).smul c v = c • v := rfl

theorem normedOps_nrm (E : Type) [NormedAddCommGroup E] [NormedSpace ℝ E] (v : E) : (normedOps E).nrm v = ‖v‖ := rfl

theorem normedOps_normLike (E : Type) [NormedAddCommGroup E] [NormedSpace ℝ E] :
    NormLike (normedOps E) where
  nrm_nonneg v := norm_nonneg v
  nrm_smul c v := norm_smul c v
  smul_null c v h := by
    rw [normedOps_nrm] at h
    rw [normedOps_smul, norm_eq_zero.mp h, smul_zero]

section Lists

/-! list facts that core does not have -/

theorem getElem?_eq_some_getD {β : Type} {l : List β} {i : Nat} (h : i < l.length) (d : β) :
    l[i]? = some (l.getD i d) := by
  rw [List.getD_eq_getElem?_getD, List.getElem?_eq_getElem h, Option.getD_some]

theorem getElem?_zipWith_of_some {β γ δ : Type} (f : β → γ → δ) {a : List β} {b : List γ} {i : Nat} {x : β} {y : γ}
    (ha : a[i]? = some x) (hb : b[i]? = some y) : (List.zipWith f a b)[i]? = some (f x y) := by
  rw [List.getElem?_zipWith, ha, hb]

theorem zipWith_fst {β : Type} (a b : List β) (h : a.length ≤ b.length) : List.zipWith (fun x _ => x) a b = a :=
  List.map_zipWith.symm.trans (List.map_fst_zip h)

theorem zipWith_snd {β : Type} (a b : List β) (h : b.length ≤ a.length) : List.zipWith (fun _ y => y) a b = b :=
  List.map_zipWith.symm.trans (List.map_snd_zip h)

variable {α : Type} [Field α]

theorem sumSq_scale (c : α) (v : List α) : sumSq (scale c v) = c * c * sumSq v := by
  induction v with
  | nil => simp [sumSq, scale]
  | cons x xs ih =>
    have ih' : sumSq (List.map (fun x => x * c) xs) = c * c * sumSq xs := ih
    simp only [scale, List.map_cons, sumSq, ih']
    ring

theorem scale_of_all_zero (c : α) {v : List α} (h : ∀ x ∈ v, x = 0) : scale c v = v :=
  (List.map_congr_left (g := id) fun x hx => by rw [h x hx, zero_mul, id]).trans (List.map_id v)

theorem scale_length (c : α) (v : List α) : (scale c v).length = v.length := by simp [scale]

theorem listOps_smul (sqrt : α → α) : (listOps sqrt).smul = scale := rfl

theorem listOps_nrm (sqrt : α → α) : (listOps sqrt).nrm = norm sqrt := rfl

theorem normalize_length (sqrt : α → α) (e : α) (g : List α) :
    (normalize sqrt e g).length = g.length := by simp [normalize]

theorem normalize_getD (sqrt : α → α) (eps : α) (g : List α) (i : Nat) :
    (normalize sqrt eps g).getD i 0 = g.getD i 0 / (norm sqrt g + eps) := by
  unfold normalize
  rw [List.getD_eq_getElem?_getD, List.getD_eq_getElem?_getD, List.getElem?_map]
  cases g[i]? <;> simp

theorem blend_one (a b : List α) (h : a.length ≤ b.length) : blend 1 a b = a := by
  unfold blend
  have : (fun (x y : α) => 1 * x + (1 - 1) * y) = fun x _ => x := by funext x y; ring
  rw [this]; exact zipWith_fst a b h

theorem blend_zero (a b : List α) (h : b.length ≤ a.length) : blend 0 a b = b := by
  unfold blend
  have : (fun (x y : α) => 0 * x + (1 - 0) * y) = fun _ y => y := by funext x y; ring
  rw [this]; exact zipWith_snd a b h

/-- `Schedule.runShampoo_before` / `_after` are the same two facts about the other model of `run_shampoo` -/
theorem runShampoo_of_lt {step start : Nat} (h : step < start) : (runShampoo step start : α) = 0 :=
  if_neg (Nat.not_le.mpr h)

theorem runShampoo_of_le {step start : Nat} (h : start ≤ step) : (runShampoo step start : α) = 1 :=
  if_pos h

theorem finalScale_scale (mm m : α) (p : List α) :
    finalScale mm (scale m p) = scale (-(mm * m)) p := by
  unfold finalScale scale
  rw [List.map_map]
  apply List.map_congr_left
  intro x _
  simp only [Function.comp]
  ring

theorem tfFinal_eq_finalScale (lr : α) (v : List α) : tfFinal lr v = finalScale lr v :=
  List.map_congr_left fun x _ => by ring

theorem dsPrecondGrad_length {β : Type} (skip : Bool) (graft precond : List β) (h : precond.length = graft.length) :
    (dsPrecondGrad skip graft precond).length = graft.length := by
  cases skip
  · exact h
  · rfl

theorem dsShampooUpdate_length (sqrt : α → α) (c : DSConfig α) (graft p : List α) :
    (dsShampooUpdate sqrt c graft p).length = p.length := by
  unfold dsShampooUpdate
  split
  · exact scale_length _ _
  · exact scale_length _ _

end Lists

section StepLengths
variable {α : Type} [Field α] [LinearOrder α] [IsStrictOrderedRing α]

set_option linter.unusedSectionVars false in
theorem accStep_length (w1 w2 : α) (acc g : List α) (h : acc.length = g.length) :
    (accStep w1 w2 acc g).length = g.length := by simp [accStep, h]

set_option linter.unusedSectionVars false in
theorem diagStep_length (sqrt : α → α) (e : α) (g acc : List α) (h : acc.length = g.length) :
    (diagStep sqrt e g acc).length = g.length := by simp [diagStep, h]

set_option linter.unusedSectionVars false in
theorem clipScaled_length (sqrt : α → α) (nc : Nat → α) (cl : α) (u : List α) :
    (clipScaled sqrt nc cl u).length = u.length := by simp [clipScaled]

theorem dsGraftStep_length (sqrt : α → α) (nc : Nat → α) (c : DSConfig α) (g acc : List α)
    (h : acc.length = g.length) : (dsGraftStep sqrt nc c g acc).1.length = g.length := by
  -- the diagonal step on a view `x` of the gradient, as long as `g`
  have hd : ∀ (w1 w2 : α) (x : List α), x.length = g.length →
      (diagStep sqrt c.diagEps x (accStep w1 w2 acc x)).length = g.length := fun w1 w2 x hx => by
    rw [diagStep_length _ _ _ _ (accStep_length w1 w2 acc x (h.trans hx.symm)), hx]
  have hn := normalize_length sqrt c.eps g
  unfold dsGraftStep
  split
  · exact hd 1 1 g rfl
  · exact hd 1 1 _ hn
  · dsimp only
    split
    · rw [clipScaled_length]
      exact hd _ _ g rfl
    · exact hd _ _ g rfl
  · dsimp only
    split
    · rw [clipScaled_length]
      exact hd _ _ _ hn
    · exact hd _ _ _ hn
  · rfl
  · rfl
  · exact List.length_map _

end StepLengths

section ListInst
variable {α : Type} [Field α] [LinearOrder α] [IsStrictOrderedRing α]

theorem sumSq_nonneg (v : List α) : 0 ≤ sumSq v := by
  induction v with
  | nil => simp [sumSq]
  | cons x xs ih => simp only [sumSq]; exact add_nonneg (mul_self_nonneg x) ih

theorem sumSq_eq_zero_iff {v : List α} : sumSq v = 0 ↔ ∀ x ∈ v, x = 0 := by
  induction v with
  | nil => simp [sumSq]
  | cons y ys ih =>
    rw [sumSq, add_eq_zero_iff_of_nonneg (mul_self_nonneg y) (sumSq_nonneg ys), mul_self_eq_zero, ih,
      List.forall_mem_cons]

theorem sqrt_unique {sqrt : α → α} (hs : SqrtSpec sqrt) {x y : α} (hy : 0 ≤ y) (h : y * y = x) :
    sqrt x = y := by
  have hx : 0 ≤ x := h ▸ mul_self_nonneg y
  obtain ⟨h0, h1⟩ := hs x hx
  exact (mul_self_inj h0 hy).mp (h1.trans h.symm)

theorem norm_nonneg' {sqrt : α → α} (hs : SqrtSpec sqrt) (v : List α) : 0 ≤ norm sqrt v :=
  (hs _ (sumSq_nonneg v)).1

theorem norm_mul_self {sqrt : α → α} (hs : SqrtSpec sqrt) (v : List α) :
    norm sqrt v * norm sqrt v = sumSq v :=
  (hs _ (sumSq_nonneg v)).2

theorem norm_scale {sqrt : α → α} (hs : SqrtSpec sqrt) (c : α) (v : List α) :
    norm sqrt (scale c v) = |c| * norm sqrt v := by
  unfold norm
  apply sqrt_unique hs (mul_nonneg (abs_nonneg c) (hs _ (sumSq_nonneg v)).1)
  rw [sumSq_scale, mul_mul_mul_comm, abs_mul_abs_self, (hs _ (sumSq_nonneg v)).2]

theorem norm_eq_zero_iff {sqrt : α → α} (hs : SqrtSpec sqrt) (v : List α) :
    norm sqrt v = 0 ↔ ∀ x ∈ v, x = 0 := by
  rw [← sumSq_eq_zero_iff, ← norm_mul_self hs v, mul_self_eq_zero]

theorem listOps_normLike {sqrt : α → α} (hs : SqrtSpec sqrt) : NormLike (listOps sqrt) where
  nrm_nonneg v := norm_nonneg' hs v
  nrm_smul c v := norm_scale hs c v
  smul_null c v h := scale_of_all_zero c ((norm_eq_zero_iff hs v).mp h)

end ListInst

section Generic
variable {α V : Type} [Field α] [LinearOrder α] {ops : VecOps α V}

theorem tfMultiplier_pos {gn bn : α} (hb : 0 < bn) : tfMultiplier gn bn = gn / bn := by
  unfold tfMultiplier; rw [if_pos hb]

theorem tfMaybeGraftG_run {count start : Nat} (hc : start ≤ count) (g b : V) :
    tfMaybeGraftG ops count start false g b = ops.smul (tfMultiplier (ops.nrm g) (ops.nrm b)) b := by
  unfold tfMaybeGraftG
  simp only [Bool.false_eq_true, if_false, if_pos hc]

theorem tfMaybeGraftG_warmup (count start : Nat) (masked : Bool) (hc : count < start) (g b : V) :
    tfMaybeGraftG ops count start masked g b = g := by
  unfold tfMaybeGraftG
  have : ¬ start ≤ count := Nat.not_le.mpr hc
  cases masked <;> simp [this]

theorem tfMaybeGraftG_masked (count start : Nat) (g b : V) :
    tfMaybeGraftG ops count start true g b = g := by
  unfold tfMaybeGraftG; simp

variable [IsStrictOrderedRing α]

set_option linter.unusedSectionVars false in
theorem tfMultiplier_zero {gn bn : α} (hb : ¬ 0 < bn) : tfMultiplier gn bn = 0 := by
  unfold tfMultiplier; rw [if_neg hb]

theorem tfMaybeGraftG_nrm (h : NormLike ops) {count start : Nat} (hc : start ≤ count) (g b : V)
    (hb : 0 < ops.nrm b) : ops.nrm (tfMaybeGraftG ops count start false g b) = ops.nrm g := by
  rw [tfMaybeGraftG_run hc, h.nrm_smul, tfMultiplier_pos hb, abs_of_nonneg (div_nonneg (h.nrm_nonneg g) hb.le)]
  exact div_mul_cancel₀ _ hb.ne'

theorem tfMaybeGraftG_null (h : NormLike ops) {count start : Nat} (hc : start ≤ count) (g b : V)
    (hb : ops.nrm b = 0) : tfMaybeGraftG ops count start false g b = b := by
  rw [tfMaybeGraftG_run hc]
  exact h.smul_null _ b hb

theorem dsMultiplier_nonneg {eps gn pn : α} (he : 0 ≤ eps) (hg : 0 ≤ gn) (hp : 0 ≤ pn) :
    0 ≤ dsMultiplier eps gn pn :=
  div_nonneg hg (add_nonneg hp he)

theorem dsShampooG_nrm (h : NormLike ops) {eps : α} (he : 0 ≤ eps) (g p : V) :
    ops.nrm (dsShampooG ops eps g p) = ops.nrm g * ops.nrm p / (ops.nrm p + eps) := by
  unfold dsShampooG
  rw [h.nrm_smul, abs_of_nonneg (dsMultiplier_nonneg he (h.nrm_nonneg g) (h.nrm_nonneg p))]
  unfold dsMultiplier
  rw [div_mul_eq_mul_div]

theorem dsShampooG_null (h : NormLike ops) (eps : α) (g p : V) (hp : ops.nrm p = 0) :
    dsShampooG ops eps g p = p :=
  h.smul_null _ p hp

/-- the transplanted norm falls short of the graft norm by `‖g‖·ε/(‖p‖+ε)`: never negative, at most `‖g‖·ε/‖p‖` -/
theorem dsShampooG_gap (h : NormLike ops) {eps : α} (he : 0 < eps) (g p : V) :
    0 ≤ ops.nrm g - ops.nrm (dsShampooG ops eps g p) ∧
    (0 < ops.nrm p → ops.nrm g - ops.nrm (dsShampooG ops eps g p) ≤ ops.nrm g * eps / ops.nrm p) := by
  have hG := h.nrm_nonneg g
  have hP := h.nrm_nonneg p
  have hpe : 0 < ops.nrm p + eps := add_pos_of_nonneg_of_pos hP he
  have e : ops.nrm g - ops.nrm g * ops.nrm p / (ops.nrm p + eps) = ops.nrm g * eps / (ops.nrm p + eps) := by
    rw [eq_div_iff hpe.ne', sub_mul, div_mul_cancel₀ _ hpe.ne']
    ring
  rw [dsShampooG_nrm h he.le, e]
  exact ⟨div_nonneg (mul_nonneg hG he.le) hpe.le,
    fun hp => div_le_div_of_nonneg_left (mul_nonneg hG he.le) hp (le_add_of_nonneg_right he.le)⟩

end Generic

section Transform
variable {α : Type} [Field α]

theorem dsApplyGraft_warmup (sqrt : α → α) (c : DSConfig α) {step : Nat} (skip : Bool) (s precond : List α)
    (hp : skip = false → precond.length = s.length) (hw : step < c.start) :
    dsApplyGraft sqrt c step skip s precond = finalScale (momentumMultiplier c) (scale (precondMultiplier c) s) := by
  unfold dsApplyGraft
  simp only [runShampoo_of_lt hw]
  rw [blend_zero]
  rw [dsShampooUpdate_length]
  cases skip
  · exact ((scale_length _ _).trans (hp rfl).symm).le
  · exact le_refl _

/-- one statement for preconditioned and excluded parameters: `p` is the preconditioned gradient, or the graft step
itself when `skip` -/
theorem dsApplyGraft_run (sqrt : α → α) (c : DSConfig α) {step : Nat} (skip : Bool) (s precond : List α)
    (hp : skip = false → precond.length = s.length) (hstart : c.start ≤ step) (ht : c.graftType ≠ .none) :
    let s' := scale (precondMultiplier c) s
    let p := dsPrecondGrad skip s' precond
    dsApplyGraft sqrt c step skip s precond =
      scale (-(momentumMultiplier c * (norm sqrt s' / (norm sqrt p + c.eps)))) p := by
  intro s' p
  have hl : p.length ≤ s'.length := by
    cases skip
    · exact (hp rfl).le.trans (scale_length _ _).ge
    · exact le_refl _
  unfold dsApplyGraft
  simp only [runShampoo_of_le hstart]
  rw [blend_one _ _ (by rw [dsShampooUpdate_length]; exact hl)]
  unfold dsShampooUpdate
  rw [if_neg ht]
  exact finalScale_scale _ _ _

variable [LinearOrder α]

theorem tfApplyGraft_warmup (sqrt : α → α) (lr : α) {count start : Nat} (hc : count < start) (masked : Bool)
    (s b : List α) : tfApplyGraft sqrt lr count start masked s b = tfFinal lr s :=
  congrArg (tfFinal lr) (tfMaybeGraftG_warmup count start masked hc s b)

theorem tfApplyGraft_masked (sqrt : α → α) (lr : α) (count start : Nat) (s b : List α) :
    tfApplyGraft sqrt lr count start true s b = tfFinal lr s :=
  congrArg (tfFinal lr) (tfMaybeGraftG_masked count start s b)

theorem tfApplyGraft_run (sqrt : α → α) (lr : α) {count start : Nat} (hc : start ≤ count) (s b : List α)
    (hb : 0 < norm sqrt b) :
    tfApplyGraft sqrt lr count start false s b = scale (-(lr * (norm sqrt s / norm sqrt b))) b := by
  unfold tfApplyGraft tfMaybeGraft
  rw [tfMaybeGraftG_run hc, listOps_smul, listOps_nrm, tfMultiplier_pos hb, tfFinal_eq_finalScale, finalScale_scale]

theorem tfApplyGraft_null (sqrt : α → α) (lr : α) {count start : Nat} (hc : start ≤ count)
    (s b : List α) (hz : ∀ x ∈ b, x = 0) : tfApplyGraft sqrt lr count start false s b = b := by
  unfold tfApplyGraft tfMaybeGraft
  rw [tfMaybeGraftG_run hc, listOps_smul, scale_of_all_zero _ hz]
  exact scale_of_all_zero _ hz

variable [IsStrictOrderedRing α]

theorem norm_scale_transplant {sqrt : α → α} (hs : SqrtSpec sqrt) (mm eps : α) (he : 0 ≤ eps) (s' p : List α) :
    norm sqrt (scale (-(mm * (norm sqrt s' / (norm sqrt p + eps)))) p) =
      |mm| * (norm sqrt s' * norm sqrt p / (norm sqrt p + eps)) := by
  have hm : 0 ≤ norm sqrt s' / (norm sqrt p + eps) :=
    dsMultiplier_nonneg he (norm_nonneg' hs s') (norm_nonneg' hs p)
  rw [norm_scale hs, abs_neg, abs_mul, abs_of_nonneg hm]
  ring

theorem norm_tfApplyGraft_run {sqrt : α → α} (hs : SqrtSpec sqrt) (lr : α) {count start : Nat} (hc : start ≤ count)
    (s b : List α) (hb : 0 < norm sqrt b) :
    norm sqrt (tfApplyGraft sqrt lr count start false s b) = |lr| * norm sqrt s := by
  rw [tfApplyGraft_run sqrt lr hc s b hb, norm_scale hs, abs_neg, abs_mul,
    abs_of_nonneg (div_nonneg (norm_nonneg' hs s) hb.le), mul_assoc, div_mul_cancel₀ _ hb.ne']

end Transform

section Closed
variable {α : Type} [Field α]

theorem accStep_getElem? (w1 w2 : α) (acc g : List α) (i : Nat) (a x : α)
    (ha : acc[i]? = some a) (hx : g[i]? = some x) :
    (accStep w1 w2 acc g)[i]? = some (w1 * a + w2 * (x * x)) := by
  unfold accStep
  exact getElem?_zipWith_of_some _ ha hx

theorem accRun_cons (w1 w2 : α) (acc g : List α) (hist : List (List α)) :
    accRun w1 w2 acc (g :: hist) = accRun w1 w2 (accStep w1 w2 acc g) hist := rfl

theorem accRun_concat (w1 w2 : α) (acc g : List α) (hist : List (List α)) :
    accRun w1 w2 acc (hist ++ [g]) = accStep w1 w2 (accRun w1 w2 acc hist) g := by
  simp [accRun, List.foldl_append]

/-- coordinate `i` of the accumulator after the history `hist` as the graft type sees it through `f` (the identity,
or the normalisation of the `_NORMALIZED` types): `w1^T·a₀ + w2·Σ_{k<T} w1^(T-1-k)·f(g_k)[i]²`.
Peel the oldest gradient: `Finset.sum_range_succ'` splits off `k = 0`, the rest is the sum over the tail shifted by one
(`hsum`). -/
theorem accRun_map_getElem? (w1 w2 : α) (f : List α → List α) (hf : ∀ v, (f v).length = v.length) (i : Nat)
    (hist : List (List α)) (acc0 : List α) (a0 : α) (h0 : acc0[i]? = some a0) (hl : ∀ g ∈ hist, i < g.length) :
    (accRun w1 w2 acc0 (hist.map f))[i]? = some
      (w1 ^ hist.length * a0
        + w2 * ∑ k ∈ Finset.range hist.length,
            w1 ^ (hist.length - 1 - k) * ((f (hist.getD k [])).getD i 0) ^ 2) := by
  induction hist generalizing acc0 a0 with
  | nil => simpa [accRun] using h0
  | cons g hist ih =>
    have hi : i < (f g).length := by
      rw [hf]
      exact hl g List.mem_cons_self
    have hx : (f g)[i]? = some ((f g).getD i 0) := getElem?_eq_some_getD hi 0
    have h := ih (accStep w1 w2 acc0 (f g)) _ (accStep_getElem? w1 w2 acc0 (f g) i a0 _ h0 hx)
      (fun g' hg' => hl g' (List.mem_cons_of_mem _ hg'))
    have hsum : ∑ k ∈ Finset.range hist.length,
          w1 ^ (hist.length + 1 - 1 - (k + 1)) * ((f ((g :: hist).getD (k + 1) [])).getD i 0) ^ 2
        = ∑ k ∈ Finset.range hist.length, w1 ^ (hist.length - 1 - k) * ((f (hist.getD k [])).getD i 0) ^ 2 := by
      apply Finset.sum_congr rfl
      intro k _
      rw [show hist.length + 1 - 1 - (k + 1) = hist.length - 1 - k by omega]
      rfl
    rw [List.map_cons, accRun_cons, h, List.length_cons, Finset.sum_range_succ', hsum]
    simp only [List.getD_cons_zero, Nat.add_sub_cancel, Nat.sub_zero]
    congr 1
    ring

/-- the diagonal graft step after the history `hist` followed by `g`, coordinate `i`, for any weights and any view
`f` of the gradients: all closed-form graft steps with an accumulator are instances -/
theorem diagStep_accRun_getElem? (sqrt : α → α) (e w1 w2 : α) (f : List α → List α)
    (hf : ∀ v, (f v).length = v.length) (i : Nat) (hist : List (List α)) (g acc0 : List α) (a0 : α)
    (h0 : acc0[i]? = some a0) (hl : ∀ g' ∈ hist ++ [g], i < g'.length) :
    (diagStep sqrt e (f g) (accStep w1 w2 (accRun w1 w2 acc0 (hist.map f)) (f g)))[i]? = some
      ((f g).getD i 0 /
        (sqrt (w1 ^ (hist ++ [g]).length * a0
          + w2 * ∑ k ∈ Finset.range (hist ++ [g]).length,
              w1 ^ ((hist ++ [g]).length - 1 - k) * ((f ((hist ++ [g]).getD k [])).getD i 0) ^ 2) + e)) := by
  have hacc : accStep w1 w2 (accRun w1 w2 acc0 (hist.map f)) (f g) = accRun w1 w2 acc0 ((hist ++ [g]).map f) := by
    rw [List.map_append, List.map_singleton, accRun_concat]
  have hi : i < (f g).length := by
    rw [hf]
    exact hl g (by simp)
  have hx : (f g)[i]? = some ((f g).getD i 0) := getElem?_eq_some_getD hi 0
  unfold diagStep
  rw [hacc, List.getElem?_zipWith, hx, accRun_map_getElem? w1 w2 f hf i (hist ++ [g]) acc0 a0 h0 hl]

theorem dsW2_one [DecidableEq α] : dsW2 (1 : α) = 1 := by
  simp [dsW2]

theorem dsW2_ne_one [DecidableEq α] {b : α} (h : b ≠ 1) : dsW2 b = 1 - b := by
  simp [dsW2, h]

theorem tfAccStep_eq [DecidableEq α] (decay : α) (acc g : List α) :
    tfAccStep decay acc g = accStep decay (dsW2 decay) acc g := by
  unfold tfAccStep accStep dsW2
  by_cases h : decay = 1
  · subst h
    simp only [beq_self_eq_true, if_true]
    congr 1; funext a x; ring
  · have hb : (decay == 1) = false := by simpa using h
    simp only [hb, Bool.false_eq_true, if_false]
    congr 1; funext a x; ring

theorem tfAccRun_eq [DecidableEq α] (decay : α) (acc0 : List α) (hist : List (List α)) :
    tfAccRun decay acc0 hist = accRun decay (dsW2 decay) acc0 hist := by
  unfold tfAccRun accRun
  congr 1
  funext acc g
  exact tfAccStep_eq decay acc g

end Closed

section Variants
variable {α : Type} [Field α] [LinearOrder α]

/-! `dsGraftStep` on each graft type -/

theorem dsGraftStep_adagrad (sqrt : α → α) (nc : Nat → α) (c : DSConfig α) (hc : c.graftType = .adagrad)
    (g acc : List α) :
    dsGraftStep sqrt nc c g acc = (diagStep sqrt c.diagEps g (accStep 1 1 acc g), accStep 1 1 acc g) := by
  unfold dsGraftStep; rw [hc]

theorem dsGraftStep_adagradNormalized (sqrt : α → α) (nc : Nat → α) (c : DSConfig α)
    (hc : c.graftType = .adagradNormalized) (g acc : List α) :
    dsGraftStep sqrt nc c g acc =
      (diagStep sqrt c.diagEps (normalize sqrt c.eps g) (accStep 1 1 acc (normalize sqrt c.eps g)),
        accStep 1 1 acc (normalize sqrt c.eps g)) := by
  unfold dsGraftStep; rw [hc]

theorem dsGraftStep_rmsprop (sqrt : α → α) (nc : Nat → α) (c : DSConfig α) (hc : c.graftType = .rmsprop)
    (hcl : c.clip = none) (g acc : List α) :
    dsGraftStep sqrt nc c g acc =
      (diagStep sqrt c.diagEps g (accStep c.beta2 (dsW2 c.beta2) acc g), accStep c.beta2 (dsW2 c.beta2) acc g) := by
  unfold dsGraftStep; rw [hc]; simp only [hcl]

theorem dsGraftStep_rmspropNormalized (sqrt : α → α) (nc : Nat → α) (c : DSConfig α)
    (hc : c.graftType = .rmspropNormalized) (hcl : c.clip = none) (g acc : List α) :
    dsGraftStep sqrt nc c g acc =
      (diagStep sqrt c.diagEps (normalize sqrt c.eps g)
          (accStep c.beta2 (dsW2 c.beta2) acc (normalize sqrt c.eps g)),
        accStep c.beta2 (dsW2 c.beta2) acc (normalize sqrt c.eps g)) := by
  unfold dsGraftStep; rw [hc]; simp only [hcl]

theorem dsGraftStep_sqrtN (sqrt : α → α) (nc : Nat → α) (c : DSConfig α) (hc : c.graftType = .sqrtN) (g acc : List α) :
    dsGraftStep sqrt nc c g acc = (g.map fun x => 1 * sgn x, acc) := by
  unfold dsGraftStep; rw [hc]

theorem dsGraftStep_clip (sqrt : α → α) (nc : Nat → α) (c : DSConfig α)
    (hc : c.graftType = .rmsprop ∨ c.graftType = .rmspropNormalized) (cl : α) (hcl : c.clip = some cl)
    (g acc : List α) :
    dsGraftStep sqrt nc c g acc
      = (clipScaled sqrt nc cl (dsGraftStep sqrt nc { c with clip := none } g acc).1,
         (dsGraftStep sqrt nc { c with clip := none } g acc).2) := by
  unfold dsGraftStep
  rcases hc with hc | hc <;> simp [hc, hcl]

theorem maxJ_eq_max {β : Type} [LinearOrder β] (a b : β) : maxJ a b = max a b := (max_def_lt a b).symm

theorem clipScaled_eq_scale (sqrt : α → α) (nc : Nat → α) (cl : α) (u : List α) :
    clipScaled sqrt nc cl u = scale (1 / max 1 (norm sqrt u / sqrt (nc u.length) / cl)) u := by
  unfold clipScaled scale
  simp only [maxJ_eq_max]
  apply List.map_congr_left
  intro x _
  rw [mul_one_div]

theorem sumSq_map_sgn (g : List α) (h : ∀ x ∈ g, x ≠ 0) :
    sumSq (g.map fun x => 1 * sgn x) = (g.length : α) := by
  induction g with
  | nil => simp [sumSq]
  | cons y ys ih =>
    have hs : 1 * sgn y * (1 * sgn y) = 1 := by
      unfold sgn
      rcases lt_or_gt_of_ne (h y (by simp)) with hlt | hgt
      · simp [not_lt.mpr hlt.le, hlt]
      · simp [hgt]
    rw [List.map_cons, sumSq, hs, ih (fun x hx => h x (by simp [hx])), List.length_cons, Nat.cast_succ, add_comm]

end Variants

end PrecondVerif.Graft
