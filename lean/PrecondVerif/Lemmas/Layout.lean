/- Lemmas for the layout calculus (C07).  Core Lean only.
The initial layouts are fixed points of the updates: every update is a per-parameter `mapE` over `parameters.zip states`
(`mapE_zip_fix`), and each per-parameter step returns an entry of initial form unchanged (the `_fix` lemmas, about ANY
entry of that form, so that replicated and sharded mode share them).
In the file's order: the generic `mapE` lemmas; which errors `validate` and `rootReject` can return (the material of
`C07.no_internal_error`); Distributed Shampoo replicated; positivity of the statistic sizes; sharded mode — the three
computations of the padded global size agree (`globalDims_eq_decl`, `globalDims_fst`, `le_globalDims`), the step, then
`shapeDtypeDecl` / `pspecDecl` against `shardedInit`; SM3; Tearfree with its own error classification. -/
import PrecondVerif.Model.Layout
import PrecondVerif.Lemmas.Shapes
import PrecondVerif.Lemmas.Basic.ExceptKit
namespace PrecondVerif.Layout
open PrecondVerif.Shapes

theorem le_maxList {x : Nat} {l : List Nat} (h : x ∈ l) : x ≤ maxList l := by
  induction l with
  | nil => cases h
  | cons a t ih =>
    simp only [maxList, List.foldr_cons]
    rcases List.mem_cons.mp h with rfl | h'
    · exact Nat.le_max_left _ _
    · exact Nat.le_trans (ih h') (Nat.le_max_right _ _)

theorem maxList_ne_zero {a : Nat} {t : List Nat} (hpos : ∀ d ∈ a :: t, 0 < d) : maxList (a :: t) ≠ 0 :=
  Nat.ne_of_gt (Nat.lt_of_lt_of_le (hpos a List.mem_cons_self) (le_maxList List.mem_cons_self))

theorem mapE_mapsE {α β} (f : α → Except Err β) : MapsE f (mapE f) := ⟨rfl, fun _ _ => rfl⟩

/-- The shape every update of this file has: a per-parameter step over `parameters.zip states`.  If it
returns the stored state of every parameter, the update returns the stored list. -/
theorem mapE_zip_fix {α β} (f : α × β → Except Err β) : ∀ (l : List α) (r : List β), r.length = l.length →
    (∀ i (h₁ : i < l.length) (h₂ : i < r.length), f (l[i], r[i]) = .ok r[i]) → mapE f (l.zip r) = .ok r
  | [], [], _, _ => rfl
  | a :: t, b :: u, hl, h => by
    have h0 := h 0 (by simp) (by simp)
    have ht := mapE_zip_fix f t u (by simpa using hl)
      fun i h₁ h₂ => h (i + 1) (by simpa using h₁) (by simpa using h₂)
    simp only [List.getElem_cons_zero] at h0
    simp only [List.zip_cons_cons, mapE, h0, ht, ok_bind, pure_eq_ok]

theorem mapE_zip_fix_map {α β} (f : α × β → Except Err β) (g : α → β) (l : List α)
    (h : ∀ a ∈ l, f (a, g a) = .ok (g a)) : mapE f (l.zip (l.map g)) = .ok (l.map g) :=
  mapE_zip_fix f l (l.map g) (by simp) fun i h₁ _ => by
    rw [List.getElem_map]
    exact h _ (List.getElem_mem h₁)

theorem zipWithE_map {α β γ} (F : β → γ → Except Err γ) (a : α → β) (b : α → γ) (l : List α)
    (h : ∀ p ∈ l, F (a p) (b p) = .ok (b p)) : zipWithE F (l.map a) (l.map b) = .ok (l.map b) := by
  induction l with
  | nil => rfl
  | cons x t ih =>
    have h1 := h x (List.mem_cons_self)
    have h2 := ih (fun y hy => h y (List.mem_cons_of_mem _ hy))
    simp only [List.map_cons, zipWithE, h1, h2, ok_bind, pure_eq_ok]

/-- `validate` is a chain of six guards with the same error -/
theorem validate_error (c : Cfg) : ∀ e, validate c = .error e → e = .reject .construct .valueError :=
  guard_error <| guard_error <| guard_error <| guard_error <| guard_error <| guard_error fun _ h => by cases h

/-- the device-count check is the fifth guard of `validate` -/
theorem validate_ok_ndev (c : Cfg) (h : validate c = .ok ()) (hs : c.shard = true) : 1 ≤ c.ndev := by
  have h5 := (guard_ok (guard_ok (guard_ok (guard_ok h).2).2).2).2
  have hdev : ¬ (c.shard && decide (c.ndev < 1)) = true := (guard_ok h5).1
  rw [hs, Bool.true_and, decide_eq_true_eq] at hdev
  exact Nat.le_of_not_lt hdev

theorem rootReject_some (c : Cfg) (m : Nat) (ph : Phase) (e : Err) (h : rootReject c m ph = some e) :
    ∃ cls, e = .reject ph cls := by
  unfold rootReject at h
  split at h
  · exact ⟨_, (Option.some.inj h).symm⟩
  · split at h
    · exact ⟨_, (Option.some.inj h).symm⟩
    · cases h

theorem pshapes_snd (c : Cfg) (shape : List Nat) : ∀ p ∈ pshapes c shape, p.2 = precondDim c.r p.1 := by
  intro p hp
  simp only [pshapes, shapesForPreconditioners, List.mem_flatMap, List.mem_map] at hp
  obtain ⟨t, _, d, _, rfl⟩ := hp
  rfl

theorem matOf_dim0 (c : Cfg) (d e : Nat) : (matOf c d e).dim0 = d := by
  unfold matOf; split <;> rfl

/-- slicing the padded root back gives the initial preconditioner shape -/
theorem newPrecond_eq (c : Cfg) (maxSize d : Nat) (hd : d ≤ maxSize) :
    newPrecond c maxSize d = matOf c d (precondDim c.r d) := by
  -- both sides are `d` when there is no compression or `r + 2 ≥ d`, and `r + 2` otherwise
  have h : min d (precondDim c.r maxSize) = precondDim c.r d := by
    unfold precondDim
    split
    · omega
    · split <;> split <;> omega
  rw [newPrecond, Nat.min_eq_left hd, h]

theorem initParam_st (c : Cfg) (shape : List Nat) :
    (initParam c shape).st = (if skipParam c shape then [] else pshapes c shape).map fun p => matOf c p.1 p.1 := rfl

theorem initParam_pr (c : Cfg) (shape : List Nat) :
    (initParam c shape).pr = (if skipParam c shape then [] else pshapes c shape).map fun p => matOf c p.1 p.2 := rfl

theorem initParam_tm (c : Cfg) (shape : List Nat) :
    (initParam c shape).tm = metricsOf c (if skipParam c shape then [] else pshapes c shape).length := rfl

theorem statDims_map_matOf (c : Cfg) (shape : List Nat) :
    (statDims c shape).map (fun d => matOf c d d) = (initParam c shape).st := by
  rw [initParam_st, statDims]
  cases skipParam c shape
  · rw [if_neg Bool.false_ne_true, if_neg Bool.false_ne_true, List.map_map]
    rfl
  · rfl

theorem momQV_shapeIs (c : Cfg) (shape : List Nat) : qvShapeIs (momQV c shape) shape = true := by
  unfold momQV qvShapeIs
  by_cases h : (c.memReduction && decide (shape.length > 1)) = true <;> simp [h, plainQV, f32Leaf]

/-- `computeStats` reads the statistics list and `avg_grad` only: both the replicated entry and the
entry rebuilt from a sharded local one pass when these have the initial form. -/
theorem computeStats_fix (c : Cfg) (shape : List Nat) (s : PStats)
    (hst : s.st = (statDims c shape).map fun d => matOf c d d) (hag : s.ag = avgGradOf c shape) :
    computeStats c shape s = .ok (s.st, s.ag) := by
  unfold computeStats
  rw [hst, hag]
  unfold statDims avgGradOf
  cases hs : skipParam c shape
  · cases ha : (c.fd && c.avgGrad) <;>
      simp [f32Leaf, List.map_map, Function.comp_def, ok_bind, pure_eq_ok]
  · simp

/-- `transformGrad` reads the diagonal statistics and the momenta only; the sharded entry carries
`plainQV` whatever the graft. -/
theorem transformGrad_fix (c : Cfg) (shape : List Nat) (s : PStats)
    (hds : s.ds = plainQV shape ∨ (c.graftHasDiag = false ∧ s.ds = emptyQV))
    (hdm : s.dm = momQV c shape) (hm : s.m = momQV c shape) :
    transformGrad c shape s = .ok (s.ds, s.dm, s.m) := by
  unfold transformGrad
  rw [hdm, hm]
  rcases hds with hds | ⟨hg, hds⟩
  · cases hg : c.graftHasDiag <;>
      simp [hds, plainQV, f32Leaf, momQV_shapeIs, ok_bind, pure_eq_ok]
  · simp [hds, hg, emptyQV, momQV_shapeIs, ok_bind, pure_eq_ok]

theorem computeStats_init (c : Cfg) (shape : List Nat) :
    computeStats c shape (initParam c shape) = .ok ((initParam c shape).st, (initParam c shape).ag) :=
  computeStats_fix c shape _ (statDims_map_matOf c shape).symm rfl

theorem transformGrad_init (c : Cfg) (shape : List Nat) :
    transformGrad c shape (initParam c shape) =
      .ok ((initParam c shape).ds, (initParam c shape).dm, (initParam c shape).m) := by
  refine transformGrad_fix c shape _ ?_ rfl rfl
  unfold initParam
  cases h : c.graftHasDiag <;> simp

theorem metricsCarry_fix (c : Cfg) (n : Nat) : metricsCarry c n (metricsOf c n) = .ok (metricsOf c n) := by
  unfold metricsCarry metricsOf
  cases c.trainMetrics <;> simp

/-- Per slot `selectPrecond` compares `newPrecond` at the padded size with the stored `matOf p.1 p.2`; they agree by
`newPrecond_eq` (needs `p.1 ≤ maxSize`) and `pshapes_snd`. -/
theorem computePrecond_init (c : Cfg) (maxSize : Nat) (shape : List Nat)
    (hd : ∀ d ∈ statDims c shape, d ≤ maxSize) :
    computePrecond c maxSize (initParam c shape).st (initParam c shape) =
      .ok ((initParam c shape).pr, (initParam c shape).tm) := by
  rw [computePrecond, initParam_st, initParam_pr, initParam_tm]
  cases hs : skipParam c shape with
  | true => rfl
  | false =>
    rw [if_neg Bool.false_ne_true]
    cases hp : pshapes c shape with
    | nil => rfl
    | cons p t =>
      rw [if_neg (by simp), if_neg (by simp), zipWithE_map, List.length_map, metricsCarry_fix]
      intro q hq
      have hq1 : q.1 ≤ maxSize := by
        refine hd q.1 ?_
        simp only [statDims, hs, Bool.false_eq_true, if_false, hp]
        exact List.mem_map_of_mem hq
      rw [selectPrecond, matOf_dim0, newPrecond_eq c maxSize q.1 hq1, pshapes_snd c shape q (hp ▸ hq), if_pos rfl]

theorem stepParam_init (c : Cfg) (maxSize : Nat) (noStats : Bool) (shape : List Nat)
    (h : noStats = false → ∀ d ∈ statDims c shape, d ≤ maxSize) :
    stepParam c maxSize noStats (shape, initParam c shape) = .ok (initParam c shape) := by
  unfold stepParam
  cases noStats with
  | true =>
    simp [computeStats_init, transformGrad_init, ok_bind, pure_eq_ok]
  | false =>
    simp [computeStats_init, transformGrad_init, computePrecond_init c maxSize shape (h rfl),
      ok_bind, pure_eq_ok]

/-- the explanatory rejection, if any, that the update of the initial layout raises -/
def stepRejects (c : Cfg) (ps : List (List Nat)) : Option Err :=
  let dims := ps.flatMap (statDims c)
  if dims = [] then none else rootReject c (maxList dims) .update

theorem stepRejects_some (c : Cfg) (ps : List (List Nat)) (e : Err) (h : stepRejects c ps = some e) :
    ∃ cls, e = .reject .update cls := by
  simp only [stepRejects] at h
  split at h
  · cases h
  · exact rootReject_some _ _ _ _ h

/-- `update_fn` on the initial layout, past the tree check -/
theorem layoutStep_initLayout (c : Cfg) (ps : List (List Nat)) :
    layoutStep c ps (initLayout c ps) =
      match stepRejects c ps with
      | some e => .error e
      | none =>
        mapE (stepParam c (maxList (ps.flatMap (statDims c))) (decide (ps.flatMap (statDims c) = [])))
            (ps.zip (ps.map (initParam c))) >>= fun stats => pure ⟨countLeaf, stats⟩ := by
  rw [layoutStep, if_neg (by simp [initLayout])]
  rfl

theorem layoutStep_init_accept (c : Cfg) (ps : List (List Nat)) (h : stepRejects c ps = none) :
    layoutStep c ps (initLayout c ps) = .ok (initLayout c ps) := by
  rw [layoutStep_initLayout, h, mapE_zip_fix_map]
  · rfl
  · exact fun s hs => stepParam_init c _ _ s fun _ d hd => le_maxList (List.mem_flatMap.mpr ⟨s, hs, hd⟩)

theorem layoutStep_init_reject (c : Cfg) (ps : List (List Nat)) (e : Err) (h : stepRejects c ps = some e) :
    layoutStep c ps (initLayout c ps) = .error e := by
  rw [layoutStep_initLayout, h]

theorem layoutSteps_init (c : Cfg) (ps : List (List Nat)) (h : stepRejects c ps = none) (k : Nat) :
    layoutSteps c ps k (initLayout c ps) = .ok (initLayout c ps) := by
  induction k with
  | zero => rfl
  | succ k ih => rw [layoutSteps, layoutStep_init_accept c ps h, ok_bind, ih]

theorem tshape_pos (c : Cfg) (shape : List Nat) (h : ∀ d ∈ shape, 0 < d) : ∀ d ∈ tshape c shape, 0 < d := by
  unfold tshape
  split
  · exact mergeSmallDims_pos shape c.mergeBlock
  · exact h

theorem statDims_pos (c : Cfg) (shape : List Nat) (h : ∀ d ∈ shape, 0 < d) : ∀ d ∈ statDims c shape, 0 < d := by
  intro d hd
  unfold statDims at hd
  split at hd
  · cases hd
  · simp only [pshapes, shapesForPreconditioners, List.mem_map, List.mem_flatMap] at hd
    obtain ⟨p, ⟨t, ht, e, he, rfl⟩, rfl⟩ := hd
    have het := blockPrecondDims_sub _ _ _ he
    obtain ⟨l, hl, hel⟩ := cartesian_mem _ t ht _ het
    simp only [splitAll, List.mem_map] at hl
    obtain ⟨x, hx, rfl⟩ := hl
    exact splitSizes_pos x c.blockSize (tshape_pos c shape h x hx) _ hel

def dimsPos (ps : List (List Nat)) : Prop := ∀ s ∈ ps, ∀ d ∈ s, 0 < d

theorem allStatDims_pos (c : Cfg) (ps : List (List Nat)) (h : dimsPos ps) :
    ∀ d ∈ ps.flatMap (statDims c), 0 < d :=
  List.forall_mem_flatMap.mpr fun s hs => statDims_pos c s (h s hs)

/-- The padded global sizes computed by `sharded_init_fn` and by `sharded_init_shape_and_dtype_fn` agree.  The left side
is the `(n, ms)` of `shapeDtypeDecl`, verbatim; `shardedInit_decl` rewrites with it. -/
theorem globalDims_eq_decl (c : Cfg) (ps : List (List Nat)) (hpos : ∀ d ∈ ps.flatMap (statDims c), 0 < d) :
    (if (ps.flatMap (statDims c)).length + negMod (ps.flatMap (statDims c)).length c.ndev = 0 then
        (c.ndev, max c.blockSize 1)
     else ((ps.flatMap (statDims c)).length + negMod (ps.flatMap (statDims c)).length c.ndev,
        maxList (ps.flatMap (statDims c)))) = globalDims c ps := by
  simp only [globalDims]
  generalize ps.flatMap (statDims c) = dims at hpos ⊢
  cases dims with
  | nil => simp [maxList, negMod]
  | cons a t => rw [if_neg (maxList_ne_zero hpos), if_neg (by rw [List.length_cons]; omega)]

/-- … and the count of stacked matrices is the one `sharded_update_fn` recomputes from the local sizes -/
theorem globalDims_fst (c : Cfg) (ps : List (List Nat)) (hpos : ∀ d ∈ ps.flatMap (statDims c), 0 < d) :
    (globalDims c ps).1 = if (ps.flatMap (statDims c)).length = 0 then c.ndev
      else (ps.flatMap (statDims c)).length + negMod (ps.flatMap (statDims c)).length c.ndev := by
  simp only [globalDims]
  generalize ps.flatMap (statDims c) = dims at hpos ⊢
  cases dims with
  | nil => simp [maxList]
  | cons a t => rw [if_neg (maxList_ne_zero hpos), if_neg (by simp)]

theorem le_globalDims (c : Cfg) (ps : List (List Nat)) :
    ∀ s ∈ ps, ∀ d ∈ statDims c s, d ≤ (globalDims c ps).2 := by
  intro s hs d hd
  have hle : d ≤ maxList (ps.flatMap (statDims c)) := le_maxList (List.mem_flatMap.mpr ⟨s, hs, hd⟩)
  simp only [globalDims]
  split
  next h0 => exact Nat.le_trans (h0 ▸ hle) (Nat.zero_le _)
  · exact hle

/-- what `shardedInit` returns when it accepts (`shardedInit_ok`) -/
def shardedLayout (c : Cfg) (ps : List (List Nat)) : ShardedLayout :=
  { count := countLeaf
    gStats := f32Leaf [(globalDims c ps).1, (globalDims c ps).2, (globalDims c ps).2]
    gPrecond := f32Leaf [(globalDims c ps).1, (globalDims c ps).2, precondDim c.r (globalDims c ps).2]
    gExp := ⟨[(globalDims c ps).1], .i32⟩
    locals := (ps.zip (indexStarts c ps 0)).map fun x => localOf c x.1 x.2 }

theorem shardedInit_ok (c : Cfg) (ps : List (List Nat)) (L : ShardedLayout) (h : shardedInit c ps = .ok L) :
    validate c = .ok () ∧ shardedInitRejects c ps = false ∧ L = shardedLayout c ps := by
  obtain ⟨_, hv, h⟩ := bind_ok.mp h
  obtain ⟨hr, h⟩ := guard_ok h
  cases h
  exact ⟨hv, by simpa using hr, rfl⟩

theorem shardedStepLocal_init (c : Cfg) (ms : Nat) (shape : List Nat) (ix : Nat) (hq : c.quant2 = false)
    (hd : ∀ d ∈ statDims c shape, d ≤ ms) :
    shardedStepLocal c ms (shape, localOf c shape ix) = .ok (localOf c shape ix) := by
  -- `_convert_to_parameter_stats`: the slices `[:size, :size]` of the global statistics are the initial statistics
  have hst : ((statDims c shape).map fun d => Mat.plain (f32Leaf [min d ms, min d ms])) =
      (statDims c shape).map fun d => matOf c d d :=
    List.map_congr_left fun d hdm => by simp [matOf, hq, Nat.min_eq_left (hd d hdm)]
  -- `pad_square_matrix(stat, max_size)` does not raise
  have hany : (((statDims c shape).map fun d => matOf c d d).any fun x => decide (x.dim0 > ms)) = false := by
    simp only [List.any_map, List.any_eq_false, Function.comp_def, matOf_dim0, decide_eq_true_eq]
    exact fun d hdm => Nat.not_lt.mpr (hd d hdm)
  -- `_add_metrics_into_local_stats`: the carried metrics have the re-created type
  have htm : ¬ (c.trainMetrics = true ∧
      metricsOf c (statDims c shape).length ≠ some ⟨(statDims c shape).length, c.genFd⟩) :=
    fun ⟨h1, h2⟩ => h2 (by rw [metricsOf, if_pos h1])
  simp only [shardedStepLocal]
  rw [computeStats_fix c shape _ hst rfl, transformGrad_fix c shape _ (.inl rfl) rfl rfl]
  simp only [ok_bind, hq, Bool.false_eq_true, if_false, pure_eq_ok, localOf, hst, hany,
    List.length_map, htm, ne_eq, not_true_eq_false]

theorem indexStarts_length (c : Cfg) : ∀ (ps : List (List Nat)) (k : Nat), (indexStarts c ps k).length = ps.length
  | [], _ => rfl
  | _ :: ss, k => by simp [indexStarts, indexStarts_length c ss]

theorem mapE_locals (c : Cfg) (ms : Nat) (hq : c.quant2 = false) (ps : List (List Nat)) (ixs : List Nat)
    (hlen : ixs.length = ps.length) (h : ∀ s ∈ ps, ∀ d ∈ statDims c s, d ≤ ms) :
    mapE (shardedStepLocal c ms) (ps.zip ((ps.zip ixs).map fun x => localOf c x.1 x.2)) =
      .ok ((ps.zip ixs).map fun x => localOf c x.1 x.2) := by
  refine mapE_zip_fix _ _ _ (by simp [hlen]) fun i h₁ _ => ?_
  rw [List.getElem_map, List.getElem_zip]
  exact shardedStepLocal_init c ms _ _ hq (h _ (List.getElem_mem h₁))

theorem localOf_sizes (c : Cfg) (shape : List Nat) (ix : Nat) : (localOf c shape ix).sizes = statDims c shape := rfl

/-- the statistics `sharded_update_fn` recounts from the local `sizes` are those of `sharded_init_fn` -/
theorem sumSizes_locals (c : Cfg) (ps : List (List Nat)) (ixs : List Nat) (hlen : ixs.length = ps.length) :
    sumSizes ((ps.zip ixs).map fun x => localOf c x.1 x.2) = (ps.flatMap (statDims c)).length := by
  have hmap : ((ps.zip ixs).map fun x => localOf c x.1 x.2).map (fun l => l.sizes.length) =
      ps.map fun s => (statDims c s).length :=
    calc _ = (ps.zip ixs).map ((fun s => (statDims c s).length) ∘ Prod.fst) := by
          rw [List.map_map]
          exact List.map_congr_left fun x _ => by simp only [Function.comp, localOf_sizes]
      _ = ((ps.zip ixs).map Prod.fst).map fun s => (statDims c s).length := List.map_map.symm
      _ = _ := by rw [List.map_fst_zip (Nat.le_of_eq hlen.symm)]
  rw [sumSizes, hmap, ← List.sum_eq_foldr, List.length_flatMap]

/-- `sharded_update_fn` on the initial layout, past the tree check: the padded size is read back from the SHAPE of the
stored global statistics (not from `globalDims`), the stacked matrices are recounted from the local sizes and compared with
the stored preconditioner array. -/
theorem shardedStep_shardedLayout (c : Cfg) (ps : List (List Nat)) :
    shardedStep c ps (shardedLayout c ps) =
      match rootReject c (globalDims c ps).2 .update with
      | some e => .error e
      | none =>
        match mapE (shardedStepLocal c (globalDims c ps).2) (ps.zip (shardedLayout c ps).locals) with
        | .error e => .error e
        | .ok locals =>
          if f32Leaf [if sumSizes locals = 0 then c.ndev else sumSizes locals + negMod (sumSizes locals) c.ndev,
              (globalDims c ps).2, precondDim c.r (globalDims c ps).2] ≠ (shardedLayout c ps).gPrecond then
            .error (.internal .update "global preconditioner shape")
          else .ok { shardedLayout c ps with
            gStats := f32Leaf [if sumSizes locals = 0 then c.ndev else sumSizes locals + negMod (sumSizes locals) c.ndev,
              (globalDims c ps).2, (globalDims c ps).2], locals := locals } := by
  have hlen : ¬ (shardedLayout c ps).locals.length ≠ ps.length := by simp [shardedLayout, indexStarts_length]
  rw [shardedStep, if_neg hlen]
  rfl

/-- on the initial layout all three give what `sharded_init_fn` computed -/
theorem shardedStep_init_accept (c : Cfg) (ps : List (List Nat)) (L : ShardedLayout) (hq : c.quant2 = false)
    (hdims : dimsPos ps) (h : shardedInit c ps = .ok L)
    (hacc : rootReject c (globalDims c ps).2 .update = none) : shardedStep c ps L = .ok L := by
  have hpos := allStatDims_pos c ps hdims
  obtain ⟨_, _, rfl⟩ := shardedInit_ok c ps L h
  rw [shardedStep_shardedLayout, hacc]
  simp only [shardedLayout, f32Leaf, ne_eq, not_true_eq_false, if_false,
    mapE_locals c _ hq ps _ (indexStarts_length c ps 0) (le_globalDims c ps),
    sumSizes_locals c ps _ (indexStarts_length c ps 0), ← globalDims_fst c ps hpos]

theorem shardedStep_init_reject (c : Cfg) (ps : List (List Nat)) (L : ShardedLayout) (e : Err)
    (h : shardedInit c ps = .ok L) (hrej : rootReject c (globalDims c ps).2 .update = some e) :
    shardedStep c ps L = .error e := by
  obtain ⟨_, _, rfl⟩ := shardedInit_ok c ps L h
  rw [shardedStep_shardedLayout, hrej]

theorem shardedSteps_init (c : Cfg) (ps : List (List Nat)) (L : ShardedLayout) (hq : c.quant2 = false)
    (hdims : dimsPos ps) (h : shardedInit c ps = .ok L)
    (hacc : rootReject c (globalDims c ps).2 .update = none) (k : Nat) :
    shardedSteps c ps k L = .ok L := by
  induction k with
  | zero => rfl
  | succ k ih => rw [shardedSteps, shardedStep_init_accept c ps L hq hdims h hacc, ok_bind, ih]

theorem qvSig_momQV (c : Cfg) (shape : List Nat) : qvSig (momQV c shape) = declMom c shape := by
  unfold momQV declMom
  by_cases h : (c.memReduction && decide (shape.length > 1)) = true <;>
    simp [h, qvSig, plainQV, f32Leaf, optLeafSig, leafSig, DT.name, emptyList]

theorem localSig_eq_declLocal (c : Cfg) (shape : List Nat) (ix : Nat) :
    localSig (localOf c shape ix) = declLocal c shape ix := by
  unfold localSig localOf declLocal
  simp only [qvSig_momQV]
  by_cases h : (c.fd && c.avgGrad) = true <;>
    simp [h, avgGradOf, agSig, qvSig, plainQV, f32Leaf, optLeafSig, leafSig, DT.name, emptyList]

/-- The declared `(n, ms)` is `globalDims` by `globalDims_eq_decl`, so the compression test of the declaration is the
one `shardedInit` has passed; the leaf signatures then agree by `localSig_eq_declLocal`. -/
theorem shardedInit_decl (c : Cfg) (ps : List (List Nat)) (L : ShardedLayout)
    (hdims : dimsPos ps) (h : shardedInit c ps = .ok L) :
    shapeDtypeDecl c ps = .ok (shardedSig L) := by
  have hpos := allStatDims_pos c ps hdims
  obtain ⟨hv, hr, rfl⟩ := shardedInit_ok c ps L h
  have hr' : ¬ (c.compRank ≠ 0 ∧ c.r + 2 ≥ (globalDims c ps).2) :=
    fun ⟨h1, h2⟩ => by simp [shardedInitRejects, h1, h2] at hr
  simp only [shapeDtypeDecl, shardedLayout, hv, ok_bind, globalDims_eq_decl c ps hpos]
  cases hgd : globalDims c ps with
  | mk n ms =>
    rw [hgd] at hr'
    simp only [hr', if_false, pure_eq_ok, Except.ok.injEq]
    simp [shardedSig, leafSig, countLeaf, f32Leaf, DT.name, localSig_eq_declLocal, List.map_map, Function.comp_def]

theorem skeleton_specMom (c : Cfg) (s : List Nat) (p : List String) :
    skeleton (specMom c s p) = skeleton (qvSig (momQV c s)) := by
  unfold specMom momQV
  by_cases h : (c.memReduction && decide (s.length > 1)) = true
  · by_cases hlen : p.length > 1 <;>
      simp [h, hlen, skeleton, qvSig, f32Leaf, optLeafSig, leafSig, emptyList, DT.name]
  · have h' : (c.memReduction && decide (s.length > 1)) = false := by simpa using h
    simp [h', skeleton, qvSig, plainQV, f32Leaf, optLeafSig, leafSig, emptyList, DT.name]

theorem skeleton_specTm (c : Cfg) (n : Nat) : skeleton (specTm c) = skeleton (tmSig (metricsOf c n)) := by
  unfold specTm metricsOf
  cases c.trainMetrics <;> cases c.genFd <;> simp [skeleton, tmSig, masked]

theorem skeleton_specLocal (c : Cfg) (s : List Nat) (p : List String) (ix : Nat) :
    skeleton (specLocal c s p ix) = skeleton (localSig (localOf c s ix)) := by
  have hag : skeleton (if (c.fd && c.avgGrad) = true then Sig.spec p else masked) =
      skeleton (agSig (avgGradOf c s)) := by
    unfold avgGradOf
    cases (c.fd && c.avgGrad) <;> simp [skeleton, agSig, leafSig, masked]
  simp only [specLocal, localSig, localOf, skeleton, List.map_cons, List.map_nil, skeleton_specMom c s p,
    skeleton_specTm c (statDims c s).length, hag]
  simp [skeleton, qvSig, plainQV, f32Leaf, optLeafSig, leafSig, DT.name]

/-- one partition spec per parameter (of any length: `P()`, `P(None)`, one entry per dimension, ...) -/
def specsFit (ps : List (List Nat)) (pspecs : List (List String)) : Prop := pspecs.length = ps.length

theorem skeleton_locals (c : Cfg) : ∀ (ps : List (List Nat)) (pspecs : List (List String)) (ixs : List Nat),
    specsFit ps pspecs →
    (((ps.zip pspecs).zip ixs).map fun x => skeleton (specLocal c x.1.1 x.1.2 x.2)) =
    ((ps.zip ixs).map fun x => skeleton (localSig (localOf c x.1 x.2)))
  | [], _, _, _ => by simp
  | s :: ss, [], _, h => by simp [specsFit] at h
  | s :: ss, p :: pp, [], _ => by simp
  | s :: ss, p :: pp, i :: is, h => by
    simp only [List.zip_cons_cons, List.map_cons, skeleton_specLocal c s p i,
      skeleton_locals c ss pp is (by simpa [specsFit] using h)]

theorem pspecDecl_skeleton (c : Cfg) (ps : List (List Nat)) (pspecs : List (List String)) (statSpec : List String)
    (L : ShardedLayout) (hspec : specsFit ps pspecs)
    (h : shardedInit c ps = .ok L) :
    skeleton (pspecDecl c ps pspecs statSpec) = skeleton (shardedSig L) := by
  obtain ⟨_, _, rfl⟩ := shardedInit_ok c ps L h
  simp only [pspecDecl, shardedSig, shardedLayout, skeleton, List.map_cons, List.map_nil, List.map_map,
    Function.comp_def, leafSig]
  simp only [Sig.node.injEq, true_and, List.cons.injEq, and_true]
  exact skeleton_locals c ps pspecs _ hspec

theorem sm3StepParam_init (shape : List Nat) : sm3StepParam (shape, sm3InitParam shape) = .ok (sm3InitParam shape) := by
  simp [sm3StepParam, sm3InitParam, sm3MomQV, pure_eq_ok]

theorem sm3Step_init (ps : List (List Nat)) : sm3Step ps (ps.map sm3InitParam) = .ok (ps.map sm3InitParam) := by
  unfold sm3Step
  simp only [List.length_map, ne_eq, not_true_eq_false, if_false]
  exact mapE_zip_fix_map _ _ _ (fun s _ => sm3StepParam_init s)

theorem tfValidate_error (c : TFCfg) (e : Err) (h : tfValidate c = .error e) :
    e = .reject .construct .valueError :=
  guard_error (fun _ h => by cases h) e h

theorem tfValidate_sk (c : TFCfg) (h : tfValidate c = .ok ()) (hs : c.sketchy = true) : c.sk ≠ none :=
  fun hn => (guard_ok h).1 (by simp [tfInvalid, hs, hn])

theorem tfParam_error (c : TFCfg) (x : TFInput) (e : Err) (hsk : c.sketchy = true → c.sk ≠ none)
    (h : tfParam c x = .error e) : e = .reject .init .valueError := by
  rw [tfParam] at h
  by_cases hm : tfMasked c x.1 = true
  · rw [if_pos hm] at h
    cases h
  · rw [if_neg hm] at h
    by_cases hs : c.sketchy = true
    · rw [if_pos hs] at h
      cases hk : c.sk with
      | none => exact absurd hk (hsk hs)
      | some k => rw [hk] at h; cases h
    · rw [if_neg hs] at h
      exact guard_error (guard_error (guard_error fun _ h => by cases h)) e h

theorem tfStepParam_of_tfParam (c : TFCfg) (a : TFInput) (b : TFParam) (h : tfParam c a = .ok b) :
    tfStepParam c (a, b) = .ok b := by
  simp [tfStepParam, h, pure_eq_ok]

theorem tfInit_ok (c : TFCfg) (ps : List (List Nat)) (L : TFLayout) (h : tfInit c ps = .ok L) :
    mapE (tfParam c) (tfInputs c ps) = .ok L.params ∧ L.inputs = tfInputs c ps := by
  obtain ⟨_, _, h⟩ := bind_ok.mp h
  obtain ⟨l, hm, h⟩ := bind_ok.mp h
  cases h
  exact ⟨hm, rfl⟩

theorem tfStep_init (c : TFCfg) (ps : List (List Nat)) (L : TFLayout) (h : tfInit c ps = .ok L) :
    tfStep c L = .ok L := by
  obtain ⟨hm, hin⟩ := tfInit_ok c ps L h
  rw [← hin] at hm
  obtain ⟨hl, hi⟩ := (mapE_mapsE _).ok_getElem hm
  unfold tfStep
  rw [if_neg (by simp [hl]),
    mapE_zip_fix _ _ _ hl fun i h₁ h₂ => tfStepParam_of_tfParam c _ _ (hi i h₁ h₂)]
  rfl

theorem tfSteps_init (c : TFCfg) (ps : List (List Nat)) (L : TFLayout) (h : tfInit c ps = .ok L) (k : Nat) :
    tfSteps c k L = .ok L := by
  induction k with
  | zero => rfl
  | succ k ih => simp only [tfSteps, tfStep_init c ps L h, ok_bind, ih]

end PrecondVerif.Layout
