/-
Lemmas for the bridge theorems of `Props/Gen.lean`: the definitions GENERATED from the Python source (`Gen/Src.lean`,
namespace `PrecondVerif.Gen`, rewritten by `harness/py2lean.py` on every check run) equal the hand-written models of
`Model/Shapes.lean` on the whole stated domain.  Here: the translated loop bodies (`*_step`) and loops (`*_loop`)
against the models' recursions, the specifications the bridge statements use (`ints`, `ptypeCode`, `splitIndices`,
`splitsSpec`, `shapeEntries`, `padSlots`), and the bridges that other bridges build on.  Core Lean only; the Python built-ins are characterised in `Lemmas/GenPrelude.lean`.

Domain.  The generated definitions work on Python ints (`Int`); the models on `Nat`.  Every bridge is stated
for ALL inputs of the form `ints l` (a list of naturals seen as ints, i.e. any `param.shape`) and naturals cast to
`Int` (block size, merge limit, dimension); `compression_rank` ranges over all of `Int` (it may be negative).
Call sites: shapes are tuples of non-negative ints; `block_size`, `merge_dims`, `merge_small_dims_block_size` are
non-negative by the option validation (`reshaper.merge`, `_validate`) or by convention of `distributed_shampoo`
(a negative `block_size` is not covered by these theorems).

The proofs refer to the generated loop bodies by name (`Gen.<f>_loop<k>`) and unfold them; they do not mention
local variable names, so renaming a local or rewriting `x *= d` as `x = x * d` in the source keeps them valid,
while any change of behaviour makes a step lemma false and this file stops building.
-/
import PrecondVerif.Gen.Src
import PrecondVerif.Lemmas.GenPrelude
import PrecondVerif.Lemmas.Shapes

namespace PrecondVerif.GenBridge
open PrecondVerif PrecondVerif.GenPrelude

/-- a list of naturals (a shape) seen as Python ints -/
abbrev ints (l : List Nat) : List Int := l.map (fun (n : Nat) => (n : Int))

theorem ints_nil : ints [] = [] := rfl

theorem ints_cons (a : Nat) (l : List Nat) : ints (a :: l) = (a : Int) :: ints l := rfl

theorem ints_inj {a b : List Nat} : ints a = ints b ↔ a = b :=
  List.map_inj_right fun _ _ h => Int.ofNat_inj.mp h

/-- a map over a shape seen as ints, as a map over the shape (the cast is gone on the right) -/
theorem map_ints {β : Type} (f' : Int → β) (f : Nat → β) (h : ∀ n : Nat, f' n = f n) (l : List Nat) :
    (ints l).map f' = l.map f := by
  rw [List.map_map]
  exact List.map_congr_left fun n _ => h n

/-- the same when the results are again naturals seen as ints (the cast stays outside, as `ints`) -/
theorem map_ints_ints (f' : Int → Int) (f : Nat → Nat) (h : ∀ n : Nat, f' n = f n) (l : List Nat) :
    (ints l).map f' = ints (l.map f) :=
  (map_ints f' (fun n => (f n : Int)) h l).trans List.map_map.symm

theorem py_get_ints (l : List Nat) (i : Nat) : Gen.Py.get (ints l) (i : Int) = ((l.getD i 0 : Nat) : Int) := by
  rw [get_nat, List.getD_eq_getElem?_getD, List.getD_eq_getElem?_getD, List.getElem?_map]
  cases l[i]? <;> rfl

theorem foldl_mul_ints (l : List Nat) (a : Int) :
    List.foldl (· * ·) a (ints l) = a * ((Shapes.prod l : Nat) : Int) := by
  induction l generalizing a with
  | nil => simp
  | cons d ds ih => rw [ints_cons, List.foldl_cons, ih, Shapes.prod_cons, Int.natCast_mul, Int.mul_assoc]

theorem py_prod_ints (l : List Nat) : Gen.Py.prod (ints l) = ((Shapes.prod l : Nat) : Int) := by
  rw [Gen.Py.prod, foldl_mul_ints, Int.one_mul]

theorem py_sum_ints (l : List Nat) : Gen.Py.sum (ints l) = ((l.sum : Nat) : Int) := by
  rw [sum_eq]
  induction l with
  | nil => rfl
  | cons d ds ih => rw [ints_cons, List.sum_cons, List.sum_cons, ih, Int.natCast_add]

theorem merge_step (m p d : Nat) (rs : List Int) :
    Gen.mergeSmallDims_loop1 (m : Int) ((p : Int), rs) (d : Int) =
      if p * d ≤ m then (((p * d : Nat) : Int), rs)
      else if p > 1 then ((d : Int), rs ++ [(p : Int)]) else ((d : Int), rs) := by
  simp only [Gen.mergeSmallDims_loop1, decide_eq_true_eq, ← Int.natCast_mul, Int.ofNat_le, one_lt_natCast]
  by_cases hc : p * d ≤ m
  · rw [if_pos hc, if_pos hc]
  · rw [if_neg hc, if_neg hc]
    by_cases hp : p > 1
    · rw [if_pos hp, if_pos hp]
    · rw [if_neg hp, if_neg hp]

theorem merge_loop (m : Nat) (ds : List Nat) (p : Nat) (rs : List Int) :
    (let st := List.foldl (Gen.mergeSmallDims_loop1 (m : Int)) ((p : Int), rs) (ints ds)
     if st.1 > 1 then st.2 ++ [st.1] else st.2) = rs ++ ints (Shapes.mergeGo m ds p) := by
  induction ds generalizing p rs with
  | nil =>
    simp only [ints_nil, List.foldl_nil, Shapes.mergeGo, one_lt_natCast]
    by_cases hp : p > 1
    · rw [if_pos hp, if_pos hp]
      rfl
    · rw [if_neg hp, if_neg hp, ints_nil, List.append_nil]
  | cons d ds ih =>
    rw [ints_cons, List.foldl_cons, merge_step, Shapes.mergeGo]
    by_cases hc : p * d ≤ m
    · rw [if_pos hc, if_pos hc]
      exact ih _ _
    · rw [if_neg hc, if_neg hc]
      by_cases hp : p > 1
      · rw [if_pos hp, if_pos hp, ih, ints_cons, List.append_assoc, List.singleton_append]
      · rw [if_neg hp, if_neg hp]
        exact ih _ _

/- The proof below and that of `_should_compress` (`GenProps.C10.should_compress_bridge`) do not follow the branch
structure of the generated text: they normalise the Boolean tests, split every `if` of both sides and leave linear
integer arithmetic to `omega`.  A rewrite of the source that computes the same function (e.g. `>=` -> `>` in
`_precond_dim`, whose two branches agree at equality) keeps them valid. -/
theorem precondDim_bridge (c : Int) (d : Nat) :
    Gen.precondDim c (d : Int) = ((Shapes.precondDim c.natAbs d : Nat) : Int) := by
  unfold Gen.precondDim Shapes.precondDim
  simp only [Bool.not_eq_true', decide_eq_true_eq, decide_eq_false_iff_not, Decidable.not_not, Int.natAbs_eq_zero]
  norm_cast
  -- tests that have become equal on both sides are split together; any others still leave goals for `omega`
  repeat' split
  all_goals omega

/-- the values of `distributed_shampoo.PreconditionerType` (`enum.IntEnum`: `ALL = 1`, `INPUT = 2`, `OUTPUT = 3`) -/
def ptypeCode : Shapes.PType → Int
  | .all => 1 | .input => 2 | .output => 3

theorem ptypeCode_eq_one (pt : Shapes.PType) : ptypeCode pt = 1 ↔ pt = .all := by cases pt <;> simp [ptypeCode]

theorem ptypeCode_eq_two (pt : Shapes.PType) : ptypeCode pt = 2 ↔ pt = .input := by cases pt <;> simp [ptypeCode]

theorem ptypeCode_eq_three (pt : Shapes.PType) : ptypeCode pt = 3 ↔ pt = .output := by cases pt <;> simp [ptypeCode]

/- The bridges of the functions that dispatch on `PreconditionerType` first bring the translated text to an `if` chain on
`pt` and `rank ≤ 1` over lists of naturals (unfold, built-ins, `ptypeCode_eq_*`, `natCast_le_one`) and only then split on
`pt`. -/
theorem shouldPreconditionDims_bridge (ss : List (List Int)) (pt : Shapes.PType) :
    Gen.shouldPreconditionDims ss (ptypeCode pt) = some (Shapes.shouldPreconditionDims pt ss.length) := by
  simp only [Gen.shouldPreconditionDims, len_eq, repeat_one, Int.toNat_natCast, toNat_pred, Bool.or_eq_true,
    decide_eq_true_eq, ptypeCode_eq_one, ptypeCode_eq_two, ptypeCode_eq_three, natCast_le_one]
  cases pt <;> simp [Shapes.shouldPreconditionDims, apply_ite some]

/-- `_splits` entry of an axis that is split: the `jnp.split` indices `b, 2b, …, nsplit·b` -/
def splitIndices (d b : Nat) : List Int := (List.range ((d - 1) / b)).map fun (j : Nat) => ((j : Int) + 1) * (b : Int)

theorem part_step (b d : Nat) (i : Int) (sp : List (Int × List Int)) (ss : List (List Int)) :
    Gen.blockPartitionerInit_loop1 (b : Int) (sp, ss) (i, (d : Int)) =
      (if 0 < b ∧ b < d then sp ++ [(i, splitIndices d b)] else sp, ss ++ [ints (Shapes.splitSizes d b)]) := by
  simp only [Gen.blockPartitionerInit_loop1, Shapes.splitSizes, Bool.and_eq_true, decide_eq_true_eq,
    Int.ofNat_lt, Int.natCast_pos]
  split
  · rename_i h
    have hd1 : (d : Int) - 1 = ((d - 1 : Nat) : Int) := (Int.natCast_sub (Nat.lt_of_le_of_lt (Nat.zero_le b) h.2)).symm
    have hq : 1 ≤ (d - 1) / b := (Nat.le_div_iff_mul_le h.1).mpr (by omega)
    have hle : (d - 1) / b * b ≤ d - 1 := Nat.div_mul_le_self _ _
    simp only [hd1, fdiv_nat, range_eq, Gen.Py.full, Int.toNat_natCast, Int.toNat_natCast_add_one, get_neg_one,
      setAt_neg_one _ _ (by simp : List.map _ (List.replicate ((d - 1) / b + 1) (1 : Int)) ≠ [])]
    unfold splitIndices
    generalize (d - 1) / b = q at hq hle ⊢
    -- `sizes[-1] = d - indices[-1]`, and `indices[-1] = q * b`
    have hlast : (d : Int) - (((q - 1 : Nat) : Int) + 1) * (b : Int) = ((d - q * b : Nat) : Int) := by
      rw [← Int.natCast_succ, Nat.succ_eq_add_one, Nat.sub_add_cancel hq, ← Int.natCast_mul,
        ← Int.natCast_sub (Nat.le_trans hle (Nat.sub_le d 1))]
    simp [ints, List.getLast?_range, Nat.ne_of_gt hq, hlast, Function.comp_def]
  · simp [ints]

/-- the `_splits` list of `BlockPartitioner.__init__`: for every split axis, counted from `k`, its index and `splitIndices` -/
def splitsSpec (b : Nat) : Int → List Nat → List (Int × List Int)
  | _, [] => []
  | k, d :: ds => (if 0 < b ∧ b < d then [(k, splitIndices d b)] else []) ++ splitsSpec b (k + 1) ds

theorem part_loop (b : Nat) (shape : List Nat) (k : Int) (sp : List (Int × List Int)) (ss : List (List Int)) :
    List.foldl (Gen.blockPartitionerInit_loop1 (b : Int)) (sp, ss) (Gen.Py.enumFrom k (ints shape)) =
      (sp ++ splitsSpec b k shape, ss ++ (Shapes.splitAll shape b).map ints) := by
  induction shape generalizing k sp ss with
  | nil => simp [Gen.Py.enumFrom, splitsSpec, Shapes.splitAll]
  | cons d ds ih =>
    rw [ints_cons, Gen.Py.enumFrom, List.foldl_cons, part_step, ih]
    simp only [splitsSpec, Shapes.splitAll, List.map_cons]
    by_cases h : 0 < b ∧ b < d <;> simp [h]

/-- the positions (counted from `k`, as `enumerate` does) at which a test on the elements holds: head and tail -/
theorem positions_cons (q : Nat → Bool) (d : Nat) (ds : List Nat) (k : Int) :
    ((List.range (d :: ds).length).filter (fun i => q ((d :: ds).getD i 0))).map (fun (i : Nat) => k + (i : Int)) =
      (if q d then [k] else []) ++
        ((List.range ds.length).filter (fun i => q (ds.getD i 0))).map (fun (i : Nat) => k + 1 + (i : Int)) := by
  rw [List.length_cons, List.range_succ_eq_map, List.filter_cons, List.filter_map]
  have hq : ((fun i => q ((d :: ds).getD i 0)) ∘ Nat.succ) = (fun i => q (ds.getD i 0)) := by
    funext i
    rw [Function.comp, Nat.succ_eq_add_one, List.getD_cons_succ]
  have hk : ((fun (i : Nat) => k + (i : Int)) ∘ Nat.succ) = (fun (i : Nat) => k + 1 + (i : Int)) := by
    funext i
    rw [Function.comp, Nat.succ_eq_add_one, Int.natCast_succ, ← Int.add_assoc, Int.add_right_comm]
  rw [hq, List.getD_cons_zero]
  split
  · rw [List.map_cons, List.map_map, hk, Int.natCast_zero, Int.add_zero, List.singleton_append]
  · rw [List.map_map, hk, List.nil_append]

theorem splitsSpec_axes (b : Nat) (shape : List Nat) (k : Int) :
    (splitsSpec b k shape).map (·.1) = (Shapes.splitAxes shape b).map (fun (i : Nat) => k + (i : Int)) := by
  induction shape generalizing k with
  | nil => simp [splitsSpec, Shapes.splitAxes]
  | cons d ds ih =>
    unfold Shapes.splitAxes at ih ⊢
    rw [positions_cons (fun x => decide (0 < b ∧ b < x)) d ds, splitsSpec, List.map_append, ih (k + 1)]
    by_cases h : 0 < b ∧ b < d
    · rw [if_pos h, if_pos (decide_eq_true h), List.map_cons, List.map_nil]
    · rw [if_neg h, if_neg fun hd => h (of_decide_eq_true hd), List.map_nil]

theorem pad_step (b s : Nat) (hb : 0 < b) (acc : List Int) :
    Gen.deriveShapes_loop1 (b : Int) acc (s : Int) = acc ++ [((Shapes.padDim s b : Nat) : Int)] := by
  simp only [Gen.deriveShapes_loop1, Shapes.padDim, if_neg (Nat.ne_of_gt hb), decide_eq_true_eq, ge_iff_le, Int.ofNat_le]
  split
  · have hs : ((s + b : Nat) : Int) - 1 = ((s + b - 1 : Nat) : Int) :=
      (Int.natCast_sub (Nat.le_trans hb (Nat.le_add_left b s))).symm
    rw [← Int.natCast_add, hs, fdiv_nat, Int.natCast_mul]
  · rfl

theorem pad_loop (b : Nat) (hb : 0 < b) (l : List Nat) (acc : List Int) :
    List.foldl (Gen.deriveShapes_loop1 (b : Int)) acc (ints l) = acc ++ ints (l.map (Shapes.padDim · b)) := by
  induction l generalizing acc with
  | nil => simp
  | cons s l ih =>
    rw [ints_cons, List.foldl_cons, pad_step b s hb, ih, List.map_cons, ints_cons, List.append_assoc,
      List.singleton_append]

/-- `[i for i, s in enumerate(l) if q(s)]` (`large_axes` of `_blocks_metadata`) against the model's filter of `range` -/
theorem enum_filter (q' : Int → Bool) (q : Nat → Bool) (hq : ∀ n : Nat, q' (n : Int) = q n) (l : List Nat) (k : Int) :
    List.map (fun (p : Int × Int) => p.1) (List.filter (fun (p : Int × Int) => q' p.2) (Gen.Py.enumFrom k (ints l))) =
      ((List.range l.length).filter (fun i => q (l.getD i 0))).map (fun (i : Nat) => k + (i : Int)) := by
  induction l generalizing k with
  | nil => simp [Gen.Py.enumFrom]
  | cons d ds ih =>
    rw [positions_cons q d ds, ints_cons, Gen.Py.enumFrom, List.filter_cons, hq, ← ih (k + 1)]
    by_cases h : q d = true <;> simp [h]

theorem toPad_eq_emod (n D : Nat) : Gen.toPad (n : Int) (D : Int) = (-(n : Int)) % (D : Int) := by
  unfold Gen.toPad
  exact Int.fmod_eq_emod_of_nonneg _ (Int.natCast_nonneg D)

theorem toPad_spec (n D : Nat) (hD : 0 < D) :
    0 ≤ Gen.toPad (n : Int) (D : Int) ∧ Gen.toPad (n : Int) (D : Int) < (D : Int) ∧
      (D : Int) ∣ (n : Int) + Gen.toPad (n : Int) (D : Int) := by
  rw [toPad_eq_emod]
  have hD' : (0 : Int) < (D : Int) := Int.natCast_pos.mpr hD
  refine ⟨Int.emod_nonneg _ (Int.ne_of_gt hD'), Int.emod_lt_of_pos _ hD', Int.dvd_of_emod_eq_zero ?_⟩
  rw [Int.add_emod_emod, Int.add_right_neg, Int.zero_emod]

theorem preconditionerShape_bridge (c : Int) (d : Nat) :
    Gen.preconditionerShape c (d : Int) = [(d : Int), ((Shapes.precondDim c.natAbs d : Nat) : Int)] := by
  unfold Gen.preconditionerShape
  rw [precondDim_bridge]
  by_cases h : c = 0
  · simp [h, Shapes.precondDim]
  · simp [h]

theorem py_product_ints (ss : List (List Nat)) :
    Gen.Py.product (ss.map ints) = (Shapes.cartesian ss).map ints := by
  induction ss with
  | nil => rfl
  | cons l ls ih =>
    simp only [List.map_cons, Gen.Py.product, Shapes.cartesian, ih]
    simp only [ints, List.flatMap_map, List.map_flatMap, List.map_map]
    rfl

/-- one `[dim, precond dim]` entry per preconditioned dimension of a block -/
def shapeEntries (pt : Shapes.PType) (c : Int) (t : List Nat) : List (List Int) :=
  (Shapes.blockPrecondDims pt t).map fun (d : Nat) => [(d : Int), ((Shapes.precondDim c.natAbs d : Nat) : Int)]

theorem shapes_step (pt : Shapes.PType) (c : Int) (t : List Nat) (r : Nat) (hr : t.length = r) (acc : List (List Int)) :
    Gen.shapesForPreconditioners_loop1 (ptypeCode pt) c (r : Int) acc (ints t) = acc ++ shapeEntries pt c t := by
  subst hr
  simp only [Gen.shapesForPreconditioners_loop1, sliceTo_neg_one, sliceFrom_neg_one, List.length_map, ← List.map_take,
    ← List.map_drop, map_ints _ _ (preconditionerShape_bridge c), Bool.or_eq_true, decide_eq_true_eq, ptypeCode_eq_one, ptypeCode_eq_two,
    ptypeCode_eq_three, natCast_le_one]
  unfold shapeEntries Shapes.blockPrecondDims
  cases pt
  · simp
  · by_cases h : t.length ≤ 1 <;> simp [h]
  · by_cases h : t.length ≤ 1 <;> simp [h]

theorem shapes_loop (pt : Shapes.PType) (c : Int) (r : Nat) (L : List (List Nat)) (hL : ∀ t ∈ L, t.length = r)
    (acc : List (List Int)) :
    List.foldl (Gen.shapesForPreconditioners_loop1 (ptypeCode pt) c (r : Int)) acc (L.map ints) =
      acc ++ L.flatMap (shapeEntries pt c) := by
  induction L generalizing acc with
  | nil => simp
  | cons t ts ih =>
    rw [List.map_cons, List.foldl_cons, shapes_step pt c t r (hL t (List.mem_cons_self ..)),
      ih (fun u hu => hL u (List.mem_cons_of_mem _ hu)), List.flatMap_cons, List.append_assoc]

theorem exponent_bridge (ss : List (List Int)) (pt : Shapes.PType) :
    Gen.exponentForPreconditioner ss (ptypeCode pt) = some ((Shapes.exponentForPreconditioner pt ss.length : Nat) : Int) := by
  unfold Gen.exponentForPreconditioner
  rw [shouldPreconditionDims_bridge]
  -- arithmetic left to omega, so `2 * n`, `n * 2`, `n + n` in the source all keep this proof valid
  simp only [Gen.Py.count, Shapes.exponentForPreconditioner, Shapes.numPreconditioned, Option.some.injEq, Int.ofNat_eq_natCast]
  omega

/-- `S` padded with `None` on the axes that have no preconditioner -/
def padSlots (pt : Shapes.PType) (rank : Nat) (S : List (Option Int)) : List (Option Int) :=
  match pt with
  | .all => S
  | .input => if rank ≤ 1 then S else S ++ [none]
  | .output => if rank ≤ 1 then S else List.replicate (rank - 1) none ++ S

theorem padSlots_length (pt : Shapes.PType) (rank : Nat) (S : List (Option Int))
    (h : S.length = Shapes.numPreconditioned pt rank) : (padSlots pt rank S).length = rank := by
  rw [Shapes.numPreconditioned_eq] at h
  unfold padSlots
  cases pt
  · simpa using h
  · by_cases hr : rank ≤ 1
    · simpa [hr] using h
    · -- `rank - 1` slots and one `None` appended
      have hS : S.length = rank - 1 := by simpa [hr] using h
      simp only [if_neg hr, List.length_append, List.length_singleton, hS]
      omega
  · by_cases hr : rank ≤ 1
    · simpa [hr] using h
    · -- one slot behind `rank - 1` times `None`
      have hS : S.length = 1 := by simpa [hr] using h
      simp only [if_neg hr, List.length_append, List.length_replicate, hS]
      omega

/-- `any(s > g for s in shape)`, the test of both skip predicates (`_skip_preconditioning`, `_mask_skipped`) -/
theorem any_gt_ints (g : Nat) (shape : List Nat) :
    List.any (List.map (fun (s : Int) => decide (s > (g : Int))) (ints shape)) id = shape.any (fun s => decide (g < s)) := by
  rw [map_ints _ (fun s => decide (g < s)) (fun n => by simp), List.any_map]
  rfl

end PrecondVerif.GenBridge
