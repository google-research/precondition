/-
One "the routine meets its certificate" lemma per root routine of C01 (`ScalarHonest`, `EighHonest`, `NewtonCert`,
`DispatchCert`), what the Newton and eigh routines compute in the batch position, and — independent of these — the
entry-level form of the blocked mode products (`merge_blockFn_entry`, C06 tiling).
-/
import PrecondVerif.Lemmas.Compose
import PrecondVerif.Lemmas.ComposePad
import PrecondVerif.Props.C06
import PrecondVerif.Props.C08

namespace PrecondVerif.Compose
open PrecondVerif.InvRoot PrecondVerif.Gate PrecondVerif.Schedule PrecondVerif.DShampoo PrecondVerif.Shapes

section Scalar
variable {α : Type} [Field α] [LinearOrder α] [IsStrictOrderedRing α]

/-- certificate of the `1 × 1` branch -/
def ScalarHonest (N : NewtonCfg α) (rep : α → XF) (invroot : α → α) (a x : α) (e : XF) : Prop :=
  let d := ridgeOf N.eps (N.maxEvOf 1 1 fun _ _ => a) N.epsFloor
  0 < d ∧ x = invroot (a + d) ∧ x ^ N.p * (a + d) = 1 ∧ e = rep 0

theorem scalarSlotRoot_cert (N : NewtonCfg α) (rep : α → XF) (invroot : α → α) (he : 0 < N.eps) (hf : 0 < N.epsFloor)
    (hinv : ∀ x, 0 < x → invroot x ^ N.p * x = 1) (hcast : ∀ x, N.cast32 x = x) (a prev : α) (f : Unit) (ha : 0 ≤ a) :
    ScalarHonest N rep invroot a (scalarSlotRoot N rep invroot a prev f).1 (scalarSlotRoot N rep invroot a prev f).2 := by
  have hd := ridgeOf_pos N.eps (N.maxEvOf 1 1 fun _ _ => a) N.epsFloor he hf
  obtain ⟨h1, _, h3⟩ := C01.onebyone_root N.p invroot N.cast32 a _ ha hd hinv hcast
  exact ⟨hd, h1, h1 ▸ hinv _ (add_pos_of_nonneg_of_pos ha hd), congrArg rep h3⟩

end Scalar

section Eigh
variable {α : Type} [Field α] [LinearOrder α] [IsStrictOrderedRing α] {n : Nat}
open Matrix

/-- what the eigh theorems of C01 assume about the eigen-solver's output `(U, e)` for the regularised statistic
(no padding): `U` orthogonal, computed eigenvalues `≥ ridge > 0` -/
def EighKernelOK (kernel : (n : Nat) → Mat α n n → Mat α n n × Vec α n) (ridgeFn : (n : Nat) → Mat α n n → α)
    (s : Nat) (A : Mat α n n) : Prop :=
  0 < ridgeFn n A ∧
    (Matrix.of (kernel n (regularized s A (ridgeFn n A))).1 : MatR α n)ᵀ *
        Matrix.of (kernel n (regularized s A (ridgeFn n A))).1 = 1 ∧
    (Matrix.of (kernel n (regularized s A (ridgeFn n A))).1 : MatR α n) *
        (Matrix.of (kernel n (regularized s A (ridgeFn n A))).1)ᵀ = 1 ∧
    ∀ i, ridgeFn n A ≤ (kernel n (regularized s A (ridgeFn n A))).2 i

/-- certificate of the eigh root: residual bounded by `n · err / ridge` for the error it reports -/
def EighHonest (ridgeFn : (n : Nat) → Mat α n n → α) (rep : α → XF) (p s : Nat) (A X : Mat α n n) (e : XF) : Prop :=
  ∃ err : α, e = rep err ∧
    ∀ i j, |((Matrix.of X : MatR α n) ^ p * dampedM s A (ridgeFn n A) - 1) i j| ≤ (n : α) * err / ridgeFn n A

theorem eighSlotRoot_cert (kernel : (n : Nat) → Mat α n n → Mat α n n × Vec α n) (ridgeFn : (n : Nat) → Mat α n n → α)
    (sqrt invroot : α → α) (rep : α → XF) (p s : Nat) (hs : s ≠ 0) (hns : n ≤ s)
    (hsqrt : ∀ x, 0 ≤ x → sqrt x * sqrt x = x) (hinv : ∀ x, 0 < x → 0 ≤ invroot x ∧ invroot x ^ p * x = 1)
    (A prev : Mat α n n) (f : Unit) (hk : EighKernelOK kernel ridgeFn s A) :
    EighHonest ridgeFn rep p s A (eighSlotRoot kernel ridgeFn sqrt invroot rep s A prev f).1
      (eighSlotRoot kernel ridgeFn sqrt invroot rep s A prev f).2 :=
  ⟨_, rfl, C01.eigh_error_honest s p hs hns sqrt invroot (ridgeFn n A) hk.1 A _ _ hk.2.1 hk.2.2.1 hk.2.2.2 hsqrt hinv⟩

end Eigh

section Dispatch
variable {α : Type} [Field α] [LinearOrder α] [IsStrictOrderedRing α]

/-- certificate of the Newton branch (what `C01.newton_error_honest` gives for every output, accepted or not); with the
gate's two conditions on `e` it is `HonestRootOf` (`NewtonCert.honest`) -/
def NewtonCert (N : NewtonCfg α) (rep : α → XF) (d : Nat) (L P : Mx α) (e : XF) : Prop :=
  P = toMx (newtonOut N d (ofMx d L)).x ∧ e = rep (newtonOut N d (ofMx d L)).err ∧
  1 ≤ (newtonOut N d (ofMx d L)).retries ∧
  ∀ i j, |((Matrix.of (newtonOut N d (ofMx d L)).x) ^ N.p *
      dampedM d (ofMx d L) (newtonRidge N d (ofMx d L) * 10 ^ ((newtonOut N d (ofMx d L)).retries - 1))
      - Es α d d) i j| ≤ (newtonOut N d (ofMx d L)).err

theorem newtonSlotRootMx_cert (N : NewtonCfg α) (hN : NewtonOK N) (rep : α → XF) (d : Nat) (hd : d ≠ 0)
    (L prev : Mx α) (f : Unit) :
    NewtonCert N rep d L (newtonSlotRootMx N rep d L prev f).1 (newtonSlotRootMx N rep d L prev f).2 :=
  ⟨rfl, rfl, newtonOut_honest N hN d hd (ofMx d L)⟩

omit [IsStrictOrderedRing α] in
theorem NewtonCert.honest {N : NewtonCfg α} {rep : α → XF} {thr : XF} {d : Nat} {L P : Mx α} {e : XF}
    (h : NewtonCert N rep d L P e) (hnan : e.isNaN = false) (hlt : e.lt thr = true) :
    HonestRootOf N rep thr d L P := by
  obtain ⟨hP, rfl, hbound⟩ := h
  exact ⟨hP, hnan, hlt, hbound⟩

/-- certificate of `matrix_inverse_pth_root` as dispatched on the statistic size -/
def DispatchCert (N : NewtonCfg α) (rep : α → XF) (invroot : α → α) (dims : Nat → Nat) (i : Nat) (L P : Mx α)
    (e : XF) : Prop :=
  if dims i = 1 then
    (P = fun a b => if a = 0 ∧ b = 0 then P 0 0 else 0) ∧ ScalarHonest N rep invroot (L 0 0) (P 0 0) e
  else NewtonCert N rep (dims i) L P e

theorem dispatch_cert (N : NewtonCfg α) (hN : NewtonOK N) (rep : α → XF) (invroot : α → α) (he : 0 < N.eps)
    (hf : 0 < N.epsFloor) (hinv : ∀ x, 0 < x → invroot x ^ N.p * x = 1) (dims : Nat → Nat) (hd : ∀ i, dims i ≠ 0)
    (i : Nat) (L prev : Mx α) (f : Unit) (hL : 0 ≤ L 0 0) :
    DispatchCert N rep invroot dims i L (dispatchSlotRootMx N rep invroot dims i L prev f).1
      (dispatchSlotRootMx N rep invroot dims i L prev f).2 := by
  unfold DispatchCert dispatchSlotRootMx
  by_cases h1 : dims i = 1
  · rw [if_pos h1, if_pos h1]
    refine ⟨?_, ?_⟩
    · funext a b
      simp only [scalarSlotRootMx]
      by_cases hab : a = 0 ∧ b = 0
      · simp [hab]
      · simp [hab]
    · have := scalarSlotRoot_cert N rep invroot he hf hinv hN.hcast (L 0 0) 0 () hL
      simpa [scalarSlotRootMx] using this
  · rw [if_neg h1, if_neg h1]
    exact newtonSlotRootMx_cert N hN rep (dims i) (hd i) L prev f

end Dispatch

open PrecondVerif.BlockDiag in
theorem ofA2_tabM {α : Type} [Zero α] (d : Nat) (L : Mx α) : ofA2 d (tabM d L) = ofMx d L := by
  funext i j
  unfold ofA2 ofMx
  rw [rdM_tabM, if_pos ⟨i.isLt, j.isLt⟩]

section Batch
open PrecondVerif.BlockDiag
variable {α : Type} [Field α] [LinearOrder α] [IsStrictOrderedRing α]

theorem newtonBatchRoot_eq (Nw : NewtonCfg α) (rep : α → XF) (hmax : MaxEvPadOK Nw) (N s : Nat) (a : A2 α)
    (hs : s ≤ N) :
    newtonBatchRoot Nw rep N s a = (toMx (newtonOut Nw s (ofA2 s a)).x, rep (newtonOut Nw s (ofA2 s a)).err) := by
  unfold newtonBatchRoot
  rw [paddedRootC01_eq Nw hs a (hmax N s a hs)]

omit [IsStrictOrderedRing α] in
theorem newtonSlotRootMx_eq (Nw : NewtonCfg α) (rep : α → XF) (d : Nat) (L prev : Mx α) :
    newtonSlotRootMx Nw rep d L prev () =
      (toMx (newtonOut Nw d (ofA2 d (tabM d L))).x, rep (newtonOut Nw d (ofA2 d (tabM d L))).err) := by
  rw [ofA2_tabM]; rfl

/-- C08's eigh root in the batch position, padded to any `N ≥ s`, under the kernel specification alone -/
theorem eighBatchRoot_eq (kernel : Kernel α) (invE : α → α) (h0 : invE 0 = 0) (ridgeOf : Nat → A2 α → α)
    (hspec : ∀ (N s : Nat) (a : A2 α), s ≤ N → KernelMeetsSpec kernel N s (ridgeOf s a) (padSq s N a))
    (hspec0 : ∀ (s : Nat) (a : A2 α), KernelMeetsSpec kernel s s (ridgeOf s a) a)
    (errOf : Nat → A2 α → A2 α → XF) (N s : Nat) (a : A2 α) (hs : s ≤ N) :
    eighBatchRoot kernel invE ridgeOf errOf N s a =
      (rdM (eighRootA kernel invE s s (ridgeOf s a) a), errOf s a (eighRootA kernel invE s s (ridgeOf s a) a)) := by
  unfold eighBatchRoot
  rw [(C08.root_padding_invariant_eigh_unconditional kernel invE h0 hs _ a (hspec N s a hs) (hspec0 s a)).1]

end Batch

theorem merge_blockFn_entry {α : Type} [Inhabited α] (t : Tensor α) (b : Nat) (blockFn : Nat → Tensor α → Tensor α)
    (hshape : ∀ k (hk : k < (partition t b).length), (blockFn k (partition t b)[k]).shape = (partition t b)[k].shape)
    (idx : List Nat) (hi : inBounds t.shape idx) :
    ∃ u, mergePartitions t.shape b ((partition t b).zipIdx.map fun gb => blockFn gb.2 gb.1) = some u ∧
      u.shape = t.shape ∧
      ∃ hk : (locateBlock t.shape b idx).1 < (partition t b).length,
        u.get idx = (blockFn (locateBlock t.shape b idx).1 ((partition t b)[(locateBlock t.shape b idx).1])).get
          (locateBlock t.shape b idx).2 := by
  -- merge ∘ partition = id gives `u` with `partition u = parts` block by block (`hF`); `idx` lies in block
  -- `k = (locateBlock idx).1` at inner index `j` (tiling, contiguity), so `u.get idx = parts[k].get j`
  set parts := (partition t b).zipIdx.map fun gb => blockFn gb.2 gb.1 with hparts
  have hlen : parts.length = (partition t b).length := by simp [hparts]
  have hget : ∀ k (hk : k < (partition t b).length), parts[k]'(by rw [hlen]; exact hk) = blockFn k (partition t b)[k] := by
    intro k hk; simp [hparts]
  have hshapes : parts.map (·.shape) = cartesian (splitAll t.shape b) := by
    rw [← partition_shapes t b]
    apply List.ext_getElem
    · simp [hlen]
    · intro k h1 h2
      have hk : k < (partition t b).length := by simpa using h2
      simp only [List.getElem_map]
      rw [hget k hk, hshape k hk]
  obtain ⟨u, hu, hus, hF⟩ := C06.partition_merge_id t.shape b parts hshapes
  obtain ⟨hk, hj, haddr, _⟩ := C06.partition_blocks_tile t.shape b idx hi
  have hkt : (locateBlock t.shape b idx).1 < (partition t b).length := by rw [C06.partition_count_grid]; exact hk
  have hku : (locateBlock t.shape b idx).1 < (partition u b).length := by rw [C06.partition_count_grid, hus]; exact hk
  refine ⟨u, hu, hus, hkt, ?_⟩
  obtain ⟨c1, c2, _⟩ := C06.partition_contiguous u b _ hku
  have hE := hF.get hku (by rw [hlen]; exact hkt)
  rw [List.get_eq_getElem, List.get_eq_getElem] at hE
  rw [hus] at c1 c2
  have hjl : (locateBlock t.shape b idx).2.length = t.shape.length := by
    have := inBounds_length hj
    rw [this, blockDims_length]
  rw [← hget _ hkt, ← hE.2 _ (by rw [c1]; exact hj), c2 _ hjl, haddr]

end PrecondVerif.Compose
