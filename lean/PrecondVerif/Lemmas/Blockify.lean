/-
Lemmas for Tearfree `_blockify` / `_deblockify` (C06): reading `reshape` and `transpose` entry by entry, the two
permutations of the two-large-axes case as moves of one list entry, then which entry each branch of the two functions reads
(`blockifyZero_get` … `deblockifyTwo_get`). Nothing here is about `split`, `concat` or `Model/ShapesIdx.lean`.
-/
import PrecondVerif.Lemmas.Shapes
import Mathlib.Tactic.Ring

namespace PrecondVerif.Shapes

theorem getD_insertAt_self (l : List Nat) (j x : Nat) (hj : j ≤ l.length) : (insertAt l j x).getD j 0 = x := by
  rw [List.getD_eq_getElem?_getD]
  simp [insertAt, Nat.min_eq_left hj]

theorem popAt_insertAt_self (l : List Nat) (j x : Nat) (hj : j ≤ l.length) : popAt (insertAt l j x) j = l := by
  unfold popAt insertAt
  have h1 : (l.take j).length = j := by simp [Nat.min_eq_left hj]
  rw [List.take_left' h1, List.drop_append, h1, List.drop_of_length_le (by omega), List.nil_append,
    show j + 1 - j = 1 by omega]
  simp

theorem popAt_append_cons (A B : List Nat) (x : Nat) : popAt (A ++ x :: B) A.length = A ++ B := by
  simp [popAt]

theorem insertAt_append (A B : List Nat) (x : Nat) : insertAt (A ++ B) A.length x = A ++ x :: B := by
  simp [insertAt]

theorem insertAt_popAt_perm (l : List Nat) (r j : Nat) (hr : r < l.length) :
    (insertAt (popAt l r) j l[r]).Perm l := by
  have h1 : (insertAt (popAt l r) j l[r]).Perm (l[r] :: popAt l r) := by
    unfold insertAt
    refine List.perm_middle.trans ?_
    rw [List.take_append_drop]
  have h2 : (l[r] :: popAt l r).Perm l := by
    unfold popAt
    refine (List.perm_middle (a := l[r]) (l₁ := l.take r) (l₂ := l.drop (r + 1))).symm.trans ?_
    rw [List.getElem_cons_drop hr, List.take_append_drop]
  exact h1.trans h2

theorem getD_at_len (A B : List Nat) (x : Nat) : (A ++ x :: B).getD A.length 0 = x := by
  rw [List.getD_eq_getElem?_getD]; simp

theorem seg_drop (A C : List Nat) (x : Nat) : (A ++ x :: C).drop (A.length + 1) = C := List.drop_length_add_append 1

theorem reshape_reshape_get {α} (t : Tensor α) (s s' idx : List Nat)
    (hp : prod s' = prod s) (hi : inBounds s' idx) :
    ((t.reshape s).reshape s').get idx = (t.reshape s').get idx := by
  simp only [Tensor.reshape]
  have hlt : ravel s' idx < prod s := hp ▸ ravel_lt s' idx hi
  rw [ravel_unravel s _ hlt]

theorem reshape_get_of_ravel_eq {α} (t : Tensor α) (s x j : List Nat) (hj : inBounds t.shape j)
    (h : ravel t.shape j = ravel s x) : (t.reshape s).get x = t.get j := by
  simp only [Tensor.reshape]
  rw [← h, unravel_ravel t.shape j hj]

/-- the blockify permutation: move position `r` to position `l+1` -/
def fwdPerm (N l r : Nat) : List Nat := insertAt (popAt (List.range N) r) (l + 1) r
/-- the deblockify permutation: move position `l+1` to position `r` -/
def bwdPerm (N l r : Nat) : List Nat := insertAt (popAt (List.range N) (l + 1)) r (l + 1)

/-- the two-large-axes branch of `_blockify`, with its permutation named -/
theorem blockifyTwo_eq {α} (t : Tensor α) (before middle after : List Nat) (lB rB bs nB : Nat) :
    blockifyTwo t before middle after lB rB bs nB =
      ((t.reshape (before ++ [lB, bs] ++ middle ++ [rB, bs] ++ after)).transpose
        (fwdPerm (before ++ [lB, bs] ++ middle ++ [rB, bs] ++ after).length before.length
          (before.length + 2 + middle.length))).reshape (before ++ [nB, bs] ++ middle ++ [bs] ++ after) := rfl

theorem deblockifyTwo_eq {α} (t : Tensor α) (blocksAxis c : Nat) (bpl paramShape : List Nat) :
    deblockifyTwo t blocksAxis c bpl paramShape =
      ((t.reshape (t.shape.take blocksAxis ++ bpl ++ t.shape.drop (blocksAxis + 1))).transpose
        (bwdPerm (t.shape.take blocksAxis ++ bpl ++ t.shape.drop (blocksAxis + 1)).length blocksAxis
          (c + 1))).reshape paramShape := rfl

theorem fwdPerm_perm (N l r : Nat) (h2 : r < N) : (fwdPerm N l r).Perm (List.range N) := by
  have h := insertAt_popAt_perm (List.range N) r (l + 1) (by simpa using h2)
  simp only [List.getElem_range] at h
  exact h

theorem bwdPerm_perm (N l r : Nat) (h : l + 1 < N) : (bwdPerm N l r).Perm (List.range N) := by
  have h := insertAt_popAt_perm (List.range N) (l + 1) r (by simpa using h)
  simp only [List.getElem_range] at h
  exact h

theorem fwdPerm_length (N l r : Nat) (h2 : r < N) : (fwdPerm N l r).length = N := by
  simpa using (fwdPerm_perm N l r h2).length_eq

theorem bwdPerm_length (N l r : Nat) (h1 : l + 1 < r) (h2 : r < N) : (bwdPerm N l r).length = N := by
  simpa using (bwdPerm_perm N l r (Nat.lt_trans h1 h2)).length_eq

theorem movePerm_map (L : List Nat) (r j : Nat) :
    (insertAt (popAt (List.range L.length) r) j r).map (L.getD · 0) = insertAt (popAt L r) j (L.getD r 0) := by
  simp only [insertAt, popAt, List.map_append, List.map_cons, List.map_take, List.map_drop, range_map_getD_self L 0]

/-- `fwdPerm` moves the entry behind `Q` to the front of `Q`. The model gives the insert position as `a + 1` with `a` the
position of the entry the moved one is put behind (the left block count), which is the last entry of `A`: hence `ha`. -/
theorem fwdPerm_map_getD (A Q R : List Nat) (c N r : Nat) (hN : N = (A ++ (Q ++ c :: R)).length)
    (hr : r = A.length + Q.length) (a : Nat) (ha : A.length = a + 1) :
    (fwdPerm N a r).map ((A ++ (Q ++ c :: R)).getD · 0) = A ++ c :: (Q ++ R) := by
  subst hN hr
  rw [fwdPerm, movePerm_map, ← ha, ← List.append_assoc, ← List.length_append, popAt_append_cons, getD_at_len,
    List.append_assoc, insertAt_append]

/-- `bwdPerm` moves the entry in front of `Q` behind `Q` -/
theorem bwdPerm_map_getD (A Q R : List Nat) (c N r : Nat) (hN : N = (A ++ c :: (Q ++ R)).length)
    (hr : r = A.length + Q.length) (a : Nat) (ha : A.length = a + 1) :
    (bwdPerm N a r).map ((A ++ c :: (Q ++ R)).getD · 0) = A ++ (Q ++ c :: R) := by
  subst hN hr
  rw [bwdPerm, movePerm_map, ← ha, popAt_append_cons, getD_at_len, ← List.append_assoc, ← List.length_append,
    insertAt_append, List.append_assoc]

theorem inBounds_map_getD {S W : List Nat} (h : inBounds S W) : ∀ p : List Nat, (∀ a ∈ p, a < S.length) →
    inBounds (p.map (S.getD · 0)) (p.map (W.getD · 0))
  | [], _ => trivial
  | a :: p, hp =>
    ⟨inBounds_getD h a (hp a (by simp)), inBounds_map_getD h p fun c hc => hp c (by simp [hc])⟩

/-- `transpose` permutes shape and index by the same map `L ↦ p.map (L.getD · 0)` -/
theorem transpose_get {α} (t : Tensor α) (p W : List Nat) (hp : p.Perm (List.range t.shape.length))
    (hW : W.length = t.shape.length) : (t.transpose p).get (p.map (W.getD · 0)) = t.get W := by
  simp only [Tensor.transpose]
  congr 1
  apply List.ext_getElem (by simp [hW])
  intro k hk _
  have hk' : k < t.shape.length := by simpa using hk
  have hi : p.idxOf k < p.length := List.idxOf_lt_length_of_mem (hp.mem_iff.mpr (by simpa using hk'))
  simp [List.getD_eq_getElem?_getD, hi, List.getElem_idxOf hi, hW ▸ hk']

/-- `reshape ∘ transpose ∘ reshape` entry by entry: `W` is the index between the first reshape and the transpose,
`J` the index into `T` with the same row-major position -/
theorem reshape_transpose_reshape_get {α} (T : Tensor α) (S1 S3 p W X J : List Nat)
    (hp : p.Perm (List.range S1.length)) (hW : inBounds S1 W) (hJ : inBounds T.shape J)
    (h1 : ravel T.shape J = ravel S1 W)
    (h3 : ravel (p.map (S1.getD · 0)) (p.map (W.getD · 0)) = ravel S3 X) :
    (((T.reshape S1).transpose p).reshape S3).get X = T.get J := by
  have hZ : inBounds ((T.reshape S1).transpose p).shape (p.map (W.getD · 0)) :=
    inBounds_map_getD hW p fun a ha => by simpa using hp.mem_iff.mp ha
  rw [reshape_get_of_ravel_eq _ S3 X _ hZ h3, transpose_get _ p W hp (inBounds_length hW),
    reshape_get_of_ravel_eq T S1 W J hJ h1]

theorem ravel_append : ∀ (s1 i1 s2 i2 : List Nat), i1.length = s1.length →
    ravel (s1 ++ s2) (i1 ++ i2) = ravel s1 i1 * prod s2 + ravel s2 i2
  | [], [], s2, i2, _ => by simp [ravel]
  | [], _ :: _, _, _, h => by simp at h
  | _ :: _, [], _, _, h => by simp at h
  | s :: s1, i :: i1, s2, i2, h => by
    have h' : i1.length = s1.length := by simpa using h
    simp only [List.cons_append, ravel, ravel_append s1 i1 s2 i2 h', prod_append]
    ring

theorem inBounds_append : ∀ (s1 i1 s2 i2 : List Nat), i1.length = s1.length →
    (inBounds (s1 ++ s2) (i1 ++ i2) ↔ inBounds s1 i1 ∧ inBounds s2 i2)
  | [], [], s2, i2, _ => by simp [inBounds]
  | [], _ :: _, _, _, h => by simp at h
  | _ :: _, [], _, _, h => by simp at h
  | s :: s1, i :: i1, s2, i2, h => by
    have h' : i1.length = s1.length := by simpa using h
    simp only [List.cons_append, inBounds, inBounds_append s1 i1 s2 i2 h', and_assoc]

theorem inBounds_cons_split {d : Nat} {C x : List Nat} (h : inBounds (d :: C) x) :
    ∃ i xc, x = i :: xc ∧ i < d ∧ inBounds C xc := by
  match x, h with
  | i :: xc, h => exact ⟨i, xc, rfl, h.1, h.2⟩

theorem inBounds_append_cons_split : ∀ {A C x : List Nat} {d : Nat}, inBounds (A ++ d :: C) x →
    ∃ xa i xc, x = xa ++ i :: xc ∧ inBounds A xa ∧ i < d ∧ inBounds C xc
  | [], _, _, _, h => by
    obtain ⟨i, xc, rfl, hi, hxc⟩ := inBounds_cons_split h
    exact ⟨[], i, xc, rfl, trivial, hi, hxc⟩
  | _ :: _, _, [], _, h => h.elim
  | _ :: _, _, i0 :: _, _, h => by
    obtain ⟨xa, i, xc, rfl, hxa, hi, hxc⟩ := inBounds_append_cons_split h.2
    exact ⟨i0 :: xa, i, xc, rfl, ⟨h.1, hxa⟩, hi, hxc⟩

theorem inBounds_insertAt (sh idx : List Nat) (j x n : Nat) (h : inBounds sh idx) (hx : x < n) :
    inBounds (insertAt sh j n) (insertAt idx j x) := by
  have ht : (idx.take j).length = (sh.take j).length := by
    rw [List.length_take, List.length_take, inBounds_length h]
  -- split both lists at `j`: the parts before and after are in bounds as before, the new entry by `hx`
  have h' := (inBounds_append (sh.take j) (idx.take j) (sh.drop j) (idx.drop j) ht).mp
    (by rwa [List.take_append_drop, List.take_append_drop])
  exact (inBounds_append _ _ (n :: sh.drop j) (x :: idx.drop j) ht).mpr ⟨h'.1, hx, h'.2⟩

theorem blockifyZero_get {α} (t : Tensor α) (inner : List Nat) (h : inBounds t.shape inner) :
    (t.reshape (1 :: t.shape)).get (0 :: inner) = t.get inner := by
  apply reshape_get_of_ravel_eq t _ _ _ h
  simp [ravel]

theorem deblockifyZero_get {α} (X : Tensor α) (S idx : List Nat) (hX : X.shape = 1 :: S) (h : inBounds S idx) :
    (X.reshape S).get idx = X.get (0 :: idx) := by
  apply reshape_get_of_ravel_eq X _ _ _ (by rw [hX]; exact ⟨Nat.one_pos, h⟩)
  rw [hX]; simp [ravel]

theorem blockifyOne_get {α} (t : Tensor α) (A C : List Nat) (n b : Nat) (hshape : t.shape = A ++ (n * b) :: C)
    (xa xc : List Nat) (u w : Nat) (hl : xa.length = A.length) (hJ : inBounds t.shape (xa ++ (u * b + w) :: xc)) :
    (t.reshape (A ++ n :: b :: C)).get (xa ++ u :: w :: xc) = t.get (xa ++ (u * b + w) :: xc) := by
  apply reshape_get_of_ravel_eq t _ _ _ hJ
  rw [hshape, ravel_append _ _ _ _ hl, ravel_append _ _ _ _ hl]
  simp only [ravel, prod_cons]
  ring

theorem deblockifyOne_get {α} (X : Tensor α) (A C : List Nat) (n b : Nat) (hX : X.shape = A ++ n :: b :: C)
    (ip iq : List Nat) (ia : Nat) (hl : ip.length = A.length)
    (hJ : inBounds X.shape (ip ++ (ia / b) :: (ia % b) :: iq)) :
    (X.reshape (A ++ (n * b) :: C)).get (ip ++ ia :: iq) = X.get (ip ++ (ia / b) :: (ia % b) :: iq) := by
  apply reshape_get_of_ravel_eq X _ _ _ hJ
  rw [hX, ravel_append _ _ _ _ hl, ravel_append _ _ _ _ hl]
  simp only [ravel, prod_cons]
  conv_rhs => rw [← Nat.div_add_mod' ia b]
  ring

theorem blockifyTwo_get {α} (t : Tensor α) (bef mid aft : List Nat) (lB rB bs : Nat)
    (hshape : t.shape = bef ++ (lB * bs) :: (mid ++ (rB * bs) :: aft))
    (xp xm xq : List Nat) (blk i j : Nat)
    (hp : inBounds bef xp) (hm : inBounds mid xm) (hq : inBounds aft xq)
    (hblk : blk < lB * rB) (hi : i < bs) (hj : j < bs)
    (hJ : inBounds t.shape (xp ++ (blk / rB * bs + i) :: (xm ++ (blk % rB * bs + j) :: xq))) :
    (blockifyTwo t bef mid aft lB rB bs (lB * rB)).get (xp ++ blk :: i :: (xm ++ j :: xq)) =
      t.get (xp ++ (blk / rB * bs + i) :: (xm ++ (blk % rB * bs + j) :: xq)) := by
  have hlp := inBounds_length hp
  have hlm := inBounds_length hm
  have hrB : 0 < rB := Nat.pos_of_lt_mul_left hblk
  have hu : blk / rB < lB := (Nat.div_lt_iff_lt_mul hrB).mpr hblk
  have hv : blk % rB < rB := Nat.mod_lt _ hrB
  have eS : bef ++ [lB, bs] ++ mid ++ [rB, bs] ++ aft = (bef ++ [lB]) ++ ((bs :: mid) ++ rB :: (bs :: aft)) := by
    simp
  have eW : xp ++ blk / rB :: i :: (xm ++ blk % rB :: j :: xq) =
      (xp ++ [blk / rB]) ++ ((i :: xm) ++ blk % rB :: (j :: xq)) := by simp
  have hr : bef.length + 2 + mid.length = (bef ++ [lB]).length + (bs :: mid).length := by simp; omega
  -- `W := xp ++ blk / rB :: i :: (xm ++ blk % rB :: j :: xq)` is the index between the first reshape and the
  -- transpose; `eS`, `eW` re-bracket shape and index so that `fwdPerm_map_getD` moves `rB` resp. `blk % rB` in both;
  -- the two `ring` goals say that each reshape keeps the row-major position
  rw [blockifyTwo_eq]
  apply reshape_transpose_reshape_get t _ _ _ (xp ++ blk / rB :: i :: (xm ++ blk % rB :: j :: xq)) _ _
    (fwdPerm_perm _ _ _ (by simp; omega)) _ hJ
  · simp only [hshape, List.append_assoc, List.cons_append, List.nil_append, ravel_append _ _ _ _ hlp, ravel,
      ravel_append _ _ _ _ hlm, prod_append, prod_cons]
    ring
  · rw [eS, fwdPerm_map_getD _ _ _ _ _ _ rfl hr bef.length (by simp), eW,
      fwdPerm_map_getD _ _ _ _ _ _ (by simp [hlp, hlm, inBounds_length hq]) (by simp [hlp, hlm]; omega) bef.length
        (by simp [hlp])]
    simp only [List.append_assoc, List.cons_append, List.nil_append, ravel_append _ _ _ _ hlp, ravel,
      ravel_append _ _ _ _ hlm, prod_append, prod_cons]
    conv_rhs => rw [← Nat.div_add_mod' blk rB]
    ring
  · simp only [List.append_assoc, List.cons_append, List.nil_append, inBounds_append _ _ _ _ hlp,
      inBounds_append _ _ _ _ hlm, inBounds]
    exact ⟨hp, hu, hi, hm, hv, hj, hq⟩

theorem deblockifyTwo_get {α} (X : Tensor α) (bef mid aft : List Nat) (lB rB bs : Nat) (PS : List Nat)
    (hX : X.shape = bef ++ (lB * rB) :: bs :: (mid ++ bs :: aft))
    (hPS : PS = bef ++ (lB * bs) :: (mid ++ (rB * bs) :: aft))
    (ip im iq : List Nat) (ia ic : Nat)
    (hp : inBounds bef ip) (hm : inBounds mid im) (hq : inBounds aft iq)
    (ha : ia < lB * bs) (hc : ic < rB * bs)
    (hJ : inBounds X.shape (ip ++ (ia / bs * rB + ic / bs) :: (ia % bs) :: (im ++ (ic % bs) :: iq))) :
    (deblockifyTwo X bef.length (bef.length + 1 + mid.length) [lB, rB] PS).get (ip ++ ia :: (im ++ ic :: iq)) =
      X.get (ip ++ (ia / bs * rB + ic / bs) :: (ia % bs) :: (im ++ (ic % bs) :: iq)) := by
  have hlp := inBounds_length hp
  have hlm := inBounds_length hm
  have hbs : 0 < bs := Nat.pos_of_lt_mul_left ha
  have hua : ia / bs < lB := (Nat.div_lt_iff_lt_mul hbs).mpr ha
  have huc : ic / bs < rB := (Nat.div_lt_iff_lt_mul hbs).mpr hc
  have hva : ia % bs < bs := Nat.mod_lt _ hbs
  have hvc : ic % bs < bs := Nat.mod_lt _ hbs
  have eY : X.shape.take bef.length ++ [lB, rB] ++ X.shape.drop (bef.length + 1) =
      (bef ++ [lB]) ++ rB :: ((bs :: mid) ++ (bs :: aft)) := by
    rw [hX, List.take_left, seg_drop]; simp
  have eW : ip ++ ia / bs :: ic / bs :: ia % bs :: (im ++ ic % bs :: iq) =
      (ip ++ [ia / bs]) ++ ic / bs :: ((ia % bs :: im) ++ (ic % bs :: iq)) := by simp
  have hr : bef.length + 1 + mid.length + 1 = (bef ++ [lB]).length + (bs :: mid).length := by simp; omega
  -- mirror image of `blockifyTwo_get`: `W` puts the two grid coordinates `ia / bs`, `ic / bs` side by side, `bwdPerm`
  -- moves the second one back in front of `ic % bs`
  rw [deblockifyTwo_eq, eY]
  apply reshape_transpose_reshape_get X _ _ _ (ip ++ ia / bs :: ic / bs :: ia % bs :: (im ++ ic % bs :: iq)) _ _
    (bwdPerm_perm _ _ _ (by simp)) _ hJ
  · simp only [hX, List.append_assoc, List.cons_append, List.nil_append, ravel_append _ _ _ _ hlp, ravel,
      ravel_append _ _ _ _ hlm, prod_append, prod_cons]
    ring
  · rw [bwdPerm_map_getD _ _ _ _ _ _ rfl hr bef.length (by simp), eW,
      bwdPerm_map_getD _ _ _ _ _ _ (by simp [hlp, hlm, inBounds_length hq]) (by simp [hlp, hlm]; omega) bef.length
        (by simp [hlp])]
    simp only [hPS, List.append_assoc, List.cons_append, List.nil_append, ravel_append _ _ _ _ hlp, ravel,
      ravel_append _ _ _ _ hlm, prod_append, prod_cons]
    conv_rhs => rw [← Nat.div_add_mod' ia bs, ← Nat.div_add_mod' ic bs]
    ring
  · simp only [List.append_assoc, List.cons_append, List.nil_append, inBounds_append _ _ _ _ hlp,
      inBounds_append _ _ _ _ hlm, inBounds]
    exact ⟨hp, hua, huc, hva, hm, hvc, hq⟩

end PrecondVerif.Shapes
