/-
A function of a symmetric matrix through an orthogonal eigendecomposition `V diag(w) Vᵀ` does not depend on the
decomposition; before it, the entries, products and powers of `A diag(w) Aᵀ` and the support of an eigenvector. Mathlib
matrices only.
-/
import Mathlib.LinearAlgebra.Matrix.SemiringInverse

namespace PrecondVerif.Spectral
open Matrix

section Entry
variable {α : Type} [Semiring α] {m n : ℕ}

theorem conj_diagonal_apply (A : Matrix (Fin m) (Fin n) α) (w : Fin n → α) (i j : Fin m) :
    (A * diagonal w * Aᵀ) i j = ∑ a, A i a * w a * A j a := by
  rw [Matrix.mul_apply]
  refine Finset.sum_congr rfl fun a _ => ?_
  rw [Matrix.mul_diagonal, Matrix.transpose_apply]

end Entry

section Conj
variable {α : Type} [CommRing α] {n : ℕ} (V : Matrix (Fin n) (Fin n) α) (hV : Vᵀ * V = 1)
include hV

theorem vdv_mul (d₁ d₂ : Fin n → α) :
    (V * diagonal d₁ * Vᵀ) * (V * diagonal d₂ * Vᵀ) = V * diagonal (fun a => d₁ a * d₂ a) * Vᵀ := by
  calc V * diagonal d₁ * Vᵀ * (V * diagonal d₂ * Vᵀ)
      = V * diagonal d₁ * (Vᵀ * V) * diagonal d₂ * Vᵀ := by simp only [Matrix.mul_assoc]
    _ = V * (diagonal d₁ * diagonal d₂) * Vᵀ := by rw [hV, Matrix.mul_one, Matrix.mul_assoc V]
    _ = _ := by rw [diagonal_mul_diagonal]

theorem vdv_pow (d : Fin n → α) (p : ℕ) :
    (V * diagonal d * Vᵀ) ^ p = V * diagonal (fun a => d a ^ p) * Vᵀ := by
  induction p with
  | zero => simp [mul_eq_one_comm.mp hV]
  | succ k ih =>
    rw [pow_succ, ih, vdv_mul V hV]
    simp only [← pow_succ]

end Conj

variable {α : Type} [Field α] {n : ℕ}

/-- an eigenvector with non-zero eigenvalue has no weight on a coordinate whose row of `C` vanishes: `C V = V diag(w)`
at `(i, a)` -/
theorem eigvec_zero_of_row_zero {C V : Matrix (Fin n) (Fin n) α} {w : Fin n → α} (hO : Vᵀ * V = 1)
    (hR : V * diagonal w * Vᵀ = C) (i : Fin n) (hrow : ∀ j, C i j = 0) (a : Fin n) (hw : w a ≠ 0) : V i a = 0 := by
  have hCV : C * V = V * diagonal w := by rw [← hR, Matrix.mul_assoc, hO, Matrix.mul_one]
  have h := congrFun (congrFun hCV i) a
  rw [Matrix.mul_apply, Matrix.mul_diagonal, Finset.sum_eq_zero fun j _ => by rw [hrow j, zero_mul]] at h
  exact (mul_eq_zero.mp h.symm).resolve_right hw

/-- two orthogonal eigendecompositions `V diag(w) Vᵀ = C = V' diag(w') V'ᵀ` differ by the orthogonal `Q = Vᵀ V'`, which
only mixes equal eigenvalues: `Q a b ≠ 0 → w a = w' b` -/
theorem eigh_transition {C V V' : Matrix (Fin n) (Fin n) α} {w w' : Fin n → α} (hO : Vᵀ * V = 1)
    (hR : V * diagonal w * Vᵀ = C) (hO' : V'ᵀ * V' = 1) (hR' : V' * diagonal w' * V'ᵀ = C) :
    V * (Vᵀ * V') = V' ∧ (Vᵀ * V') * (Vᵀ * V')ᵀ = 1 ∧ ∀ a b, (Vᵀ * V') a b ≠ 0 → w a = w' b := by
  have hVVt : V * Vᵀ = 1 := mul_eq_one_comm.mp hO
  refine ⟨by rw [← Matrix.mul_assoc, hVVt, Matrix.one_mul], ?_, fun a b hne => ?_⟩
  · rw [Matrix.transpose_mul, Matrix.transpose_transpose, Matrix.mul_assoc, ← Matrix.mul_assoc V',
      mul_eq_one_comm.mp hO', Matrix.one_mul, hO]
  · -- `diag(w) Q = Vᵀ C V' = Q diag(w')`, read at the entry `(a, b)`
    have hWQ : diagonal w * (Vᵀ * V') = (Vᵀ * V') * diagonal w' := by
      calc diagonal w * (Vᵀ * V') = (Vᵀ * V) * diagonal w * (Vᵀ * V') := by rw [hO, Matrix.one_mul]
        _ = Vᵀ * (V * diagonal w * Vᵀ) * V' := by simp only [Matrix.mul_assoc]
        _ = Vᵀ * (V' * diagonal w' * V'ᵀ) * V' := by rw [hR, hR']
        _ = (Vᵀ * V') * diagonal w' * (V'ᵀ * V') := by simp only [Matrix.mul_assoc]
        _ = _ := by rw [hO', Matrix.mul_one]
    have h := congrFun (congrFun hWQ a) b
    rw [Matrix.diagonal_mul, Matrix.mul_diagonal, mul_comm] at h
    exact mul_left_cancel₀ hne h

/-- every eigenvalue of one decomposition occurs in the other -/
theorem eigh_values_subset {C V V' : Matrix (Fin n) (Fin n) α} {w w' : Fin n → α} (hO : Vᵀ * V = 1)
    (hR : V * diagonal w * Vᵀ = C) (hO' : V'ᵀ * V' = 1) (hR' : V' * diagonal w' * V'ᵀ = C) (a : Fin n) : ∃ b, w a = w' b := by
  obtain ⟨_, hQ, hent⟩ := eigh_transition hO hR hO' hR'
  -- otherwise row `a` of the orthogonal `Q` would vanish
  by_contra hcon
  have hz : ∀ b, (Vᵀ * V') a b = 0 := fun b => by_contra fun hne => hcon ⟨b, hent a b hne⟩
  have := congrFun (congrFun hQ a) a
  rw [Matrix.mul_apply] at this
  simp [hz] at this

/-- **a function of the matrix**: `V diag(f w) Vᵀ` does not depend on which eigendecomposition is used (any spectrum,
repeated and zero eigenvalues included) -/
theorem spectral_fn_unique (f : α → α) (C V V' : Matrix (Fin n) (Fin n) α) (w w' : Fin n → α)
    (hO : Vᵀ * V = 1) (hR : V * diagonal w * Vᵀ = C) (hO' : V'ᵀ * V' = 1) (hR' : V' * diagonal w' * V'ᵀ = C) :
    V * diagonal (fun a => f (w a)) * Vᵀ = V' * diagonal (fun a => f (w' a)) * V'ᵀ := by
  obtain ⟨hV', hQ, hent⟩ := eigh_transition hO hR hO' hR'
  have hDQ : diagonal (fun a => f (w a)) * (Vᵀ * V') = (Vᵀ * V') * diagonal (fun b => f (w' b)) := by
    ext a b
    rw [Matrix.diagonal_mul, Matrix.mul_diagonal, mul_comm]
    by_cases hne : (Vᵀ * V') a b = 0
    · rw [hne, zero_mul, zero_mul]
    · rw [hent a b hne]
  calc V * diagonal (fun a => f (w a)) * Vᵀ
      = V * (diagonal (fun a => f (w a)) * ((Vᵀ * V') * (Vᵀ * V')ᵀ)) * Vᵀ := by rw [hQ, Matrix.mul_one]
    _ = V * (Vᵀ * V') * diagonal (fun b => f (w' b)) * (V * (Vᵀ * V'))ᵀ := by
        rw [← Matrix.mul_assoc (diagonal _), hDQ, Matrix.transpose_mul V]
        simp only [Matrix.mul_assoc]
    _ = _ := by rw [hV']

end PrecondVerif.Spectral
