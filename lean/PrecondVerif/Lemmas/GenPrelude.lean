/-
What the Python built-ins of `Gen/Prelude.lean` compute, in terms of core `List` / `Nat` / `Int` functions.  Core Lean only.

Where a built-in clamps its integer argument (`toNat`) the lemma is stated for EVERY integer, so that a call site needs
no case distinction on the sign: `((n : Int) - 1).toNat = n - 1` also holds for `n = 0`.
-/
import PrecondVerif.Gen.Prelude

namespace PrecondVerif.GenPrelude
open PrecondVerif PrecondVerif.Gen

theorem toNat_pred (n : Nat) : ((n : Int) - 1).toNat = n - 1 := Int.toNat_sub n 1

/- `(1 : Int)` unfolds to `((1 : Nat) : Int)`, so the core cast lemmas apply to the numeral as they stand. -/
theorem natCast_eq_one (n : Nat) : ((n : Int) = 1) ↔ n = 1 := Int.natCast_inj (n := 1)

theorem natCast_le_one (n : Nat) : ((n : Int) ≤ 1) ↔ n ≤ 1 := Int.ofNat_le (n := 1)

theorem one_lt_natCast (n : Nat) : ((n : Int) > 1) ↔ n > 1 := Int.ofNat_lt (n := 1)

theorem fdiv_nat (a b : Nat) : Int.fdiv (a : Int) (b : Int) = ((a / b : Nat) : Int) := (Int.ofNat_fdiv a b).symm

theorem len_eq {α} (l : List α) : Py.len l = (l.length : Int) := rfl

theorem repeat_one {α} (x : α) (z : Int) : Py.repeat [x] z = List.replicate z.toNat x := by
  simp [Py.repeat]

theorem range_eq (z : Int) : Py.range z = (List.range z.toNat).map fun (n : Nat) => (n : Int) := rfl

theorem get_nat {α} [Inhabited α] (l : List α) (i : Nat) : Py.get l (i : Int) = l.getD i default := by
  simp [Py.get]

theorem get_neg_one {α} [Inhabited α] (l : List α) : Py.get l (-1) = l.getLast?.getD default := by
  rcases List.eq_nil_or_concat l with rfl | ⟨l', a, rfl⟩
  · rfl
  · simp [Py.get, List.getD_eq_getElem?_getD]

theorem setAt_neg_one {α} (l : List α) (v : α) (h : l ≠ []) : Py.setAt l (-1) v = l.dropLast ++ [v] := by
  rcases List.eq_nil_or_concat l with rfl | ⟨l', a, rfl⟩
  · exact absurd rfl h
  · simp [Py.setAt]

theorem sliceTo_neg_one {α} (l : List α) : Py.sliceTo l (-1) = l.take (l.length - 1) := by
  simp [Py.sliceTo]

theorem sliceFrom_neg_one {α} (l : List α) : Py.sliceFrom l (-1) = l.drop (l.length - 1) := by
  simp [Py.sliceFrom]

theorem slice_nat {α} (l : List α) (a b : Nat) : Py.slice l (a : Int) (b : Int) = (l.take b).drop a := by
  simp only [Py.slice, Py.bound, Int.natCast_nonneg, if_true, Int.toNat_natCast, ← List.take_eq_take_min]
  by_cases h : a ≤ l.length
  · rw [Nat.min_eq_left h]
  · -- a start beyond the end: both sides are empty
    have hl : (l.take b).length ≤ a := Nat.le_trans (List.length_take_le' ..) (Nat.le_of_not_le h)
    rw [Nat.min_eq_right (Nat.le_of_not_le h), List.drop_eq_nil_of_le hl,
      List.drop_eq_nil_of_le (Nat.le_trans (List.length_take_le' ..) (Nat.le_refl _))]

theorem sum_eq (l : List Int) : Py.sum l = l.sum := List.sum_eq_foldl.symm

theorem minD_eq_headD_of_sorted (l : List Int) (d : Int) (h : l.Pairwise (· ≤ ·)) : Py.minD l d = l.headD d := by
  cases l with
  | nil => rfl
  | cons x xs =>
    exact List.foldlRecOn (motive := (· = x)) xs min rfl fun s hs y hy => by
      have := List.rel_of_pairwise_cons h hy
      omega

section dict
variable {K V : Type} [DecidableEq K]

theorem dictSet_append (l : List (K × V)) (k : K) (v : V) (h : k ∉ l.map Prod.fst) :
    Py.dictSet l k v = l ++ [(k, v)] := by
  induction l with
  | nil => rfl
  | cons p ps ih =>
    simp only [List.map_cons, List.mem_cons, not_or] at h
    rw [Py.dictSet, if_neg (fun hh => h.1 hh.symm), ih h.2, List.cons_append]

theorem dictGet_mid [Inhabited V] (pre rest : List (K × V)) (k : K) (r : V) (h : k ∉ pre.map Prod.fst) :
    Py.dictGet (pre ++ (k, r) :: rest) k = r := by
  induction pre with
  | nil => simp [Py.dictGet]
  | cons p ps ih =>
    simp only [List.map_cons, List.mem_cons, not_or] at h
    rw [List.cons_append, Py.dictGet, if_neg (fun hh => h.1 hh.symm), ih h.2]

theorem dictSet_mid (pre rest : List (K × V)) (k : K) (r v : V) (h : k ∉ pre.map Prod.fst) :
    Py.dictSet (pre ++ (k, r) :: rest) k v = pre ++ (k, v) :: rest := by
  induction pre with
  | nil => simp [Py.dictSet]
  | cons p ps ih =>
    simp only [List.map_cons, List.mem_cons, not_or] at h
    rw [List.cons_append, Py.dictSet, if_neg (fun hh => h.1 hh.symm), ih h.2, List.cons_append]

theorem dictGet_of_mem [Inhabited V] (D : List (K × V)) (hnd : (D.map Prod.fst).Nodup) (p : K × V) (hp : p ∈ D) :
    Py.dictGet D p.1 = p.2 := by
  obtain ⟨pre, rest, rfl⟩ := List.append_of_mem hp
  rw [List.map_append, List.map_cons] at hnd
  exact dictGet_mid pre rest p.1 p.2 fun hk => (List.nodup_append.mp hnd).2.2 _ hk _ (List.mem_cons_self ..) rfl

end dict

end PrecondVerif.GenPrelude
