/-
The sketched OCO methods of `Model/OCO.lean` (property C16), each block under the classes it needs, in this order.
Any field: the defining equations of the OGD, AdaGrad and sketched runs, the `alpha` recurrence, the zero last row; over an
ordered field `safeInvert` and the squares of the new root eigenvalues (`fdUpdate_e_sq`).
Matrices: the model's `Mat` read as a Mathlib `Matrix`, the second moment `gram` of the rows of a matrix, the exact second
moment `inputsCov` of a history; under the SVD specification `gram B = Vtᵀ diag(s²) Vt` (`gram_of_svd`).
The applied matrix: the matrix form `appliedMatrix` of the code's preconditioned direction, its inverse-root identity
`X·X·(αI + Pᵀdiag(s²)P) = 1` for orthonormal rows of `P`, the rank argument (`sigma_min_zero_of_gram`: a matrix whose second
moment is supported on fewer directions than the sketch size has smallest singular value 0), `X ≥ 0`.
`Sketch`, one update; `σ = σ_min` is the smallest singular value and `ρ = σ²` (`fdRho`) the escaped mass of the step: the
deflation `s ↦ (s-σ)(s+σ)` turns `gram B` into `Vtᵀ diag(s² - ρ) Vt`.
`Bracket`: the frequent-directions bracket through `Loewner.deflation` (orthonormal columns `Vtᵀ`), one step and along a run.
`Lossless`: the invariant `InSpan`, no escaped mass on a history of small rank, the S-AdaGrad step as full-matrix AdaGrad.
Last, in namespace `C16`, the concrete data of the examples of `Props/C16.lean`.
`Model/FD.lean` carries a second, column-form transcription of `_fd_update_fn` (`OcoState`, square `U`); its bracket, C09's
`oco_update_bracket`, is at the end of `Lemmas/FD.lean`; both rest on `Loewner.deflation`.
-/
import PrecondVerif.Model.OCO
import PrecondVerif.Lemmas.Loewner
import Mathlib.Analysis.Real.Sqrt

-- `[Field R]` and `[IsStrictOrderedRing R]` both provide `Nontrivial R`; an ordered field is stated with both
set_option linter.overlappingInstances false

namespace PrecondVerif.OCO
open Finset Matrix

section Field
variable {α : Type} [Field α] {n : ℕ}

theorem sumFin_eq {m : ℕ} (f : Fin m → α) : sumFin f = ∑ i, f i := by
  rw [sumFin, Fin.sum_univ_def]

/-- the `k`-th gradient of a history (0-based), zero beyond its end -/
def hist (gs : List (Vec α n)) (k : ℕ) : Vec α n := gs.getD k (fun _ => 0)

@[simp] theorem hist_cons_zero (g : Vec α n) (gs : List (Vec α n)) : hist (g :: gs) 0 = g := rfl
@[simp] theorem hist_cons_succ (g : Vec α n) (gs : List (Vec α n)) (k : ℕ) :
    hist (g :: gs) (k + 1) = hist gs k := by simp [hist]

theorem ogdRunFrom_cons (rsqrt : α → α) (lr δ : α) (s : OgdState α n) (g : Vec α n) (gs : List (Vec α n)) :
    ogdRunFrom rsqrt lr δ s (g :: gs) = ogdRunFrom rsqrt lr δ (ogdUpdate rsqrt lr δ s g) gs := rfl

theorem adaRunFrom_cons [BEq α] (rsqrt : α → α) (lr : α) (s : AdaState α n) (g : Vec α n) (gs : List (Vec α n)) :
    adaRunFrom rsqrt lr s (g :: gs) = adaRunFrom rsqrt lr (adaUpdate rsqrt lr s g) gs := rfl

end Field

section FdField
variable {α : Type} [Field α] {k n : ℕ}

theorem sketchRows_apply (st : FdState α k n) (i : Fin (k + 1)) (j : Fin n) : sketchRows st i j = st.P i j * st.e i := rfl

theorem sketchRows_fdInit (δ : α) (i : Fin (k + 1)) (j : Fin n) : sketchRows (fdInit k n δ) i j = 0 := by
  simp [sketchRows, fdInit]

variable (sqrt rsqrt : α → α) (algo : Algo) (lr : α)

theorem factors_alphaF (t : α) : (factors sqrt rsqrt algo t lr).alphaF = alphaFactor algo := by
  cases algo <;> rfl

end FdField

section FD
variable {α : Type} [Field α] [LinearOrder α] {k n : ℕ}
variable (svd : SvdFn α (k + 1) n) (sqrt rsqrt : α → α) (algo : Algo) (lr : α)

set_option linter.unusedSectionVars false in
theorem factors_sketch (t : α) : (factors sqrt rsqrt algo t lr).sketch = sketchFactor sqrt rsqrt algo t lr := by
  cases algo <;> rfl

theorem fdUpdate_P (st : FdState α k n) (g : Vec α n) :
    (fdUpdate svd sqrt rsqrt algo lr st g).P = (svd (fdB sqrt rsqrt algo lr st g)).Vt := rfl

theorem fdUpdate_t (st : FdState α k n) (g : Vec α n) :
    (fdUpdate svd sqrt rsqrt algo lr st g).t = st.t + 1 := rfl

theorem fdUpdate_e (st : FdState α k n) (g : Vec α n) (i : Fin (k + 1)) :
    (fdUpdate svd sqrt rsqrt algo lr st g).e i =
      sqrt (deflate (svd (fdB sqrt rsqrt algo lr st g)).s (fdSigmaMin svd sqrt rsqrt algo lr st g) i) := by
  simp [fdUpdate, fdSigmaMin]

theorem fdUpdate_e_last (st : FdState α k n) (g : Vec α n) :
    (fdUpdate svd sqrt rsqrt algo lr st g).e (Fin.last k) = sqrt 0 := by
  rw [fdUpdate_e]; simp [deflate, fdSigmaMin]

theorem fdUpdate_alpha (st : FdState α k n) (g : Vec α n) :
    (fdUpdate svd sqrt rsqrt algo lr st g).alpha
      = st.alpha + alphaFactor algo * fdRho svd sqrt rsqrt algo lr st g := by
  simp [fdUpdate, fdRho, fdSigmaMin, factors_alphaF]

theorem fdRunFrom_cons (st : FdState α k n) (g : Vec α n) (gs : List (Vec α n)) :
    fdRunFrom svd sqrt rsqrt algo lr st (g :: gs)
      = fdRunFrom svd sqrt rsqrt algo lr (fdUpdate svd sqrt rsqrt algo lr st g) gs := rfl

theorem fdRun_eq (δ : α) (gs : List (Vec α n)) :
    fdRun svd sqrt rsqrt algo lr δ gs = fdRunFrom svd sqrt rsqrt algo lr (fdInit k n δ) gs := rfl

theorem fdRunFrom_alpha (gs : List (Vec α n)) (st : FdState α k n) :
    (fdRunFrom svd sqrt rsqrt algo lr st gs).alpha
      = st.alpha + alphaFactor algo * (fdRhosFrom svd sqrt rsqrt algo lr st gs).sum := by
  induction gs generalizing st with
  | nil => simp [fdRunFrom, fdRhosFrom]
  | cons g gs ih =>
    rw [fdRunFrom_cons, ih, fdUpdate_alpha]
    simp only [fdRhosFrom, List.sum_cons]
    ring

theorem fdUpdate_last_row (hsqrt : sqrt 0 = 0) (st : FdState α k n) (g : Vec α n) (j : Fin n) :
    sketchRows (fdUpdate svd sqrt rsqrt algo lr st g) (Fin.last k) j = 0 := by
  rw [sketchRows_apply, fdUpdate_e_last, hsqrt, mul_zero]

theorem fdRunFrom_last_row (hsqrt : sqrt 0 = 0) (gs : List (Vec α n)) (st : FdState α k n)
    (h0 : ∀ j, sketchRows st (Fin.last k) j = 0) (j : Fin n) :
    sketchRows (fdRunFrom svd sqrt rsqrt algo lr st gs) (Fin.last k) j = 0 := by
  induction gs generalizing st with
  | nil => exact h0 j
  | cons g gs ih =>
    rw [fdRunFrom_cons]
    exact ih _ (fdUpdate_last_row svd sqrt rsqrt algo lr hsqrt st g)

end FD

section Ordered
variable {R : Type} [Field R] [LinearOrder R] {k n : ℕ}

theorem safeInvert_nonneg (rsqrt : R → R) (hrs : ∀ x, 0 < x → 0 < rsqrt x) (x : R) : 0 ≤ safeInvert rsqrt x := by
  unfold safeInvert
  split
  · exact le_rfl
  · exact (hrs x (lt_of_not_ge ‹_›)).le

theorem safeInvert_pos (rsqrt : R → R) {x : R} (hx : 0 < x) : safeInvert rsqrt x = rsqrt x :=
  if_neg (not_le.mpr hx)

variable [IsStrictOrderedRing R]
variable (svd : SvdFn R (k + 1) n) (sqrt rsqrt : R → R) (algo : Algo) (lr : R)

theorem fdRho_nonneg (st : FdState R k n) (g : Vec R n) : 0 ≤ fdRho svd sqrt rsqrt algo lr st g :=
  mul_self_nonneg _

/-- the squared new root eigenvalues are the deflated values: these are `≥ 0` because `ρ` is the smallest singular
value -/
theorem fdUpdate_e_sq (hsq : ∀ x, 0 ≤ x → sqrt x * sqrt x = x) (st : FdState R k n) (g : Vec R n)
    (h : SvdSpec (fdB sqrt rsqrt algo lr st g) (svd (fdB sqrt rsqrt algo lr st g))) (i : Fin (k + 1)) :
    (fdUpdate svd sqrt rsqrt algo lr st g).e i * (fdUpdate svd sqrt rsqrt algo lr st g).e i
      = deflate (svd (fdB sqrt rsqrt algo lr st g)).s (fdSigmaMin svd sqrt rsqrt algo lr st g) i := by
  rw [fdUpdate_e]
  exact hsq _ (mul_nonneg (sub_nonneg.mpr (h.sorted i (Fin.last k) (Fin.le_last i)))
    (add_nonneg (h.nonneg i) (h.nonneg _)))

end Ordered

section MatBridge
variable {R : Type} {m n : ℕ}

def toM (A : Mat R m n) : Matrix (Fin m) (Fin n) R := Matrix.of A

@[simp] theorem toM_apply (A : Mat R m n) (i : Fin m) (j : Fin n) : toM A i j = A i j := rfl

end MatBridge

section MatField
variable {R : Type} [Field R] {m n k : ℕ}

/-- second-moment matrix `Aᵀ A` denoted by the rows of `A` -/
def gram (A : Mat R m n) : Matrix (Fin n) (Fin n) R := (toM A)ᵀ * toM A

theorem gram_apply (A : Mat R m n) (a b : Fin n) : gram A a b = ∑ i, A i a * A i b := by
  simp [gram, Matrix.mul_apply]

theorem gram_scaled_rows (Vt : Mat R m n) (e : Vec R m) :
    gram (fun i j => Vt i j * e i) = (toM Vt)ᵀ * diagonal (fun i => e i * e i) * toM Vt := by
  have : toM (fun i j => Vt i j * e i) = diagonal e * toM Vt := by
    ext i j; simp [Matrix.diagonal_mul, mul_comm]
  unfold gram
  rw [this, Matrix.transpose_mul, diagonal_transpose]
  calc (toM Vt)ᵀ * diagonal e * (diagonal e * toM Vt)
      = (toM Vt)ᵀ * (diagonal e * diagonal e) * toM Vt := by simp only [Matrix.mul_assoc]
    _ = _ := by rw [diagonal_mul_diagonal]

theorem gram_fdInit (δ : R) : gram (sketchRows (fdInit k n δ)) = 0 := by
  ext a b
  simp [gram_apply, sketchRows_fdInit]

theorem gram_setLastRow (A : Mat R (k + 1) n) (r : Vec R n) (h0 : ∀ j, A (Fin.last k) j = 0) :
    gram (setLastRow A r) = gram A + vecMulVec r r := by
  ext a b
  rw [Matrix.add_apply, gram_apply, gram_apply, Fin.sum_univ_castSucc, Fin.sum_univ_castSucc]
  simp [setLastRow, Fin.castSucc_ne_last, h0, vecMulVec_apply]

theorem matVec_eq (P : Mat R m n) (g : Vec R n) : matVec P g = toM P *ᵥ g := by
  funext i; simp [matVec, sumFin_eq, mulVec, dotProduct]

theorem tMatVec_eq (P : Mat R m n) (c : Vec R m) : tMatVec P c = (toM P)ᵀ *ᵥ c := by
  funext j; simp [tMatVec, sumFin_eq, mulVec, dotProduct]

theorem vecMulVec_vecMul {r : ℕ} (u : Fin r → R) (W : Matrix (Fin r) (Fin n) R) :
    vecMulVec (u ᵥ* W) (u ᵥ* W) = Wᵀ * vecMulVec u u * W := by
  rw [mul_vecMulVec, vecMulVec_mul, mulVec_transpose]

/-- S-AdaGrad feeds the unscaled gradient to the sketch (`sketch_update_factor = 1`) -/
theorem gradInput_sAda (sqrt rsqrt : R → R) (lr t : R) (g : Vec R n) : gradInput (sketchFactor sqrt rsqrt .sAda t lr) g = g := by
  funext j; simp [gradInput, sketchFactor]

/-- for orthonormal rows `P` the matrices `Pᵀ D P + c (1 - PᵀP)` multiply blockwise, on the row space of `P` and on
its complement -/
theorem proj_block_mul (P : Matrix (Fin m) (Fin n) R) (hP : P * Pᵀ = 1) (D E : Matrix (Fin m) (Fin m) R) (c e : R) :
    (Pᵀ * D * P + c • (1 - Pᵀ * P)) * (Pᵀ * E * P + e • (1 - Pᵀ * P))
      = Pᵀ * (D * E) * P + (c * e) • (1 - Pᵀ * P) := by
  have hc : ∀ {l : ℕ} (A : Matrix (Fin m) (Fin l) R), P * (Pᵀ * A) = A := fun A => by
    rw [← Matrix.mul_assoc, hP, Matrix.one_mul]
  have h1 : Pᵀ * D * P * (Pᵀ * E * P) = Pᵀ * (D * E) * P := by simp only [Matrix.mul_assoc, hc]
  have h2 : Pᵀ * D * P * (1 - Pᵀ * P) = 0 := by
    rw [mul_sub, mul_one]; simp only [Matrix.mul_assoc, hc, sub_self]
  have h3 : (1 - Pᵀ * P) * (Pᵀ * E * P) = 0 := by
    rw [sub_mul, one_mul]; simp only [Matrix.mul_assoc, hc, sub_self]
  have h4 : (1 - Pᵀ * P) * (1 - Pᵀ * P) = 1 - Pᵀ * P := by
    rw [sub_mul, one_mul, mul_sub, mul_one]; simp only [Matrix.mul_assoc, hc, sub_self, sub_zero]
  simp only [add_mul, mul_add, smul_mul_assoc, mul_smul_comm, h1, h2, h3, h4, smul_zero, add_zero, zero_add, smul_smul]
  rw [mul_comm e c]

/-- exact second moment `Σ r rᵀ` of a list of vectors -/
def inputsCov (l : List (Vec R n)) : Matrix (Fin n) (Fin n) R := (l.map fun r => vecMulVec r r).sum

@[simp] theorem inputsCov_cons (r : Vec R n) (l : List (Vec R n)) :
    inputsCov (r :: l) = vecMulVec r r + inputsCov l := by simp [inputsCov]

end MatField

section InputsCovNil
variable {R : Type} [Field R] [LinearOrder R] [IsStrictOrderedRing R] [StarRing R] [TrivialStar R] [StarOrderedRing R]
variable {m n k : ℕ}

set_option linter.unusedSectionVars false in
@[simp] theorem inputsCov_nil : inputsCov ([] : List (Vec R n)) = 0 := rfl

end InputsCovNil

section Kernel
variable {R : Type} [Field R] [LinearOrder R] {m n k : ℕ}

theorem SvdSpec.vt_ortho {B : Mat R m n} {o : SvdOut R m n} (h : SvdSpec B o) : toM o.Vt * (toM o.Vt)ᵀ = 1 :=
  Loewner.mul_transpose_eq_one _ fun a b => by rw [← sumFin_eq]; exact h.vOrtho a b

theorem gram_of_svd {B : Mat R m n} {o : SvdOut R m n} (h : SvdSpec B o) :
    gram B = (toM o.Vt)ᵀ * diagonal (fun i => o.s i * o.s i) * toM o.Vt := by
  have hB : toM B = toM o.U * diagonal o.s * toM o.Vt := by
    ext i j
    rw [toM_apply, h.recon i j, sumFin_eq, Matrix.mul_apply]
    simp [Matrix.mul_diagonal]
  have hU : (toM o.U)ᵀ * toM o.U = 1 :=
    Loewner.transpose_mul_eq_one _ fun a b => by rw [← sumFin_eq]; exact h.uOrtho a b
  unfold gram
  rw [hB, Matrix.transpose_mul, Matrix.transpose_mul, diagonal_transpose]
  calc (toM o.Vt)ᵀ * (diagonal o.s * (toM o.U)ᵀ) * (toM o.U * diagonal o.s * toM o.Vt)
      = (toM o.Vt)ᵀ * (diagonal o.s * ((toM o.U)ᵀ * toM o.U) * diagonal o.s) * toM o.Vt := by
        simp only [Matrix.mul_assoc]
    _ = _ := by rw [hU, Matrix.mul_one, diagonal_mul_diagonal]

/-- the matrix `_fd_update_fn` applies to the gradient in its `else` branch -/
def appliedMatrix (inv : R → R) (alpha : R) (P : Mat R m n) (s2 : Vec R m) : Matrix (Fin n) (Fin n) R :=
  (toM P)ᵀ * diagonal (fun i => safeInvert inv (alpha + s2 i)) * toM P
    + safeInvert inv alpha • (1 - (toM P)ᵀ * toM P)

theorem precondGeneric_eq (inv : R → R) (alpha : R) (P : Mat R m n) (s2 : Vec R m) (g : Vec R n) :
    precondGeneric inv alpha P s2 g = appliedMatrix inv alpha P s2 *ᵥ g := by
  funext j
  simp only [precondGeneric, force_eq, matVec_eq, tMatVec_eq, appliedMatrix]
  have h1 : (fun i => safeInvert inv (alpha + s2 i) * (toM P *ᵥ g) i)
      = diagonal (fun i => safeInvert inv (alpha + s2 i)) *ᵥ (toM P *ᵥ g) := by
    funext i; rw [mulVec_diagonal]
  rw [h1]
  simp only [add_mulVec, smul_mulVec, sub_mulVec, one_mulVec, mulVec_mulVec, Matrix.mul_assoc,
    Pi.add_apply, Pi.smul_apply, Pi.sub_apply, smul_eq_mul]

variable [IsStrictOrderedRing R]

/-- `αI + Pᵀ diag(s²) P = Pᵀ diag(α + s²) P + α (1 − PᵀP)` (`hdec`); the product is then blockwise (`proj_block_mul`) and each
block is `rsqrt(x)² · x = 1` (`hd`) -/
theorem appliedMatrix_inverse_root (rsqrt : R → R)
    (hrs : ∀ x, 0 < x → 0 < rsqrt x ∧ rsqrt x * rsqrt x * x = 1) (alpha : R) (hα : 0 < alpha)
    (P : Mat R m n) (s2 : Vec R m) (hs2 : ∀ i, 0 ≤ s2 i) (hP : toM P * (toM P)ᵀ = 1) :
    appliedMatrix rsqrt alpha P s2 * appliedMatrix rsqrt alpha P s2
      * (alpha • (1 : Matrix (Fin n) (Fin n) R) + (toM P)ᵀ * diagonal s2 * toM P) = 1 := by
  have hdec : alpha • (1 : Matrix (Fin n) (Fin n) R) + (toM P)ᵀ * diagonal s2 * toM P
      = (toM P)ᵀ * diagonal (fun i => alpha + s2 i) * toM P + alpha • (1 - (toM P)ᵀ * toM P) := by
    rw [← diagonal_add, ← smul_one_eq_diagonal, Matrix.mul_add, Matrix.add_mul, Matrix.mul_smul, Matrix.smul_mul, Matrix.mul_one, smul_sub]
    abel
  have hd : (fun i => safeInvert rsqrt (alpha + s2 i) * safeInvert rsqrt (alpha + s2 i) * (alpha + s2 i))
      = fun _ => 1 := funext fun i => by
    have hp : 0 < alpha + s2 i := add_pos_of_pos_of_nonneg hα (hs2 i)
    rw [safeInvert_pos rsqrt hp]
    exact (hrs _ hp).2
  rw [hdec]
  unfold appliedMatrix
  rw [proj_block_mul _ hP, proj_block_mul _ hP, diagonal_mul_diagonal, diagonal_mul_diagonal, hd,
    safeInvert_pos rsqrt hα, (hrs _ hα).2, one_smul, diagonal_one, Matrix.mul_one]
  abel

/-- the smallest singular value vanishes when the second moment of `B` is supported on fewer than `k + 1` directions:
`diag(s²) = Vt (gram B) Vtᵀ` then has rank at most `r` -/
theorem sigma_min_zero_of_gram {B : Mat R (k + 1) n} {o : SvdOut R (k + 1) n} (h : SvdSpec B o) {r : ℕ}
    (hr : r < k + 1) (W : Matrix (Fin r) (Fin n) R) (Y : Matrix (Fin r) (Fin r) R) (hB : gram B = Wᵀ * Y * W) :
    o.s (Fin.last k) = 0 := by
  have hV := h.vt_ortho
  have hD : diagonal (fun i => o.s i * o.s i) = (toM o.Vt * Wᵀ) * Y * (toM o.Vt * Wᵀ)ᵀ := by
    calc diagonal (fun i => o.s i * o.s i)
        = toM o.Vt * (toM o.Vt)ᵀ * diagonal (fun i => o.s i * o.s i) * (toM o.Vt * (toM o.Vt)ᵀ) := by
          rw [hV, Matrix.one_mul, Matrix.mul_one]
      _ = toM o.Vt * gram B * (toM o.Vt)ᵀ := by rw [gram_of_svd h]; simp only [Matrix.mul_assoc]
      _ = _ := by rw [hB, Matrix.transpose_mul, Matrix.transpose_transpose]; simp only [Matrix.mul_assoc]
  have hr0 : o.s ⟨r, hr⟩ = 0 :=
    Loewner.sorted_zero_of_rank_le h.nonneg h.sorted hr (by rw [hD]; exact Loewner.rank_conj_le _ _)
  exact le_antisymm (hr0 ▸ h.sorted ⟨r, hr⟩ (Fin.last k) (Fin.le_last _)) (h.nonneg _)

end Kernel

section KernelPsd
variable {R : Type} [Field R] [LinearOrder R] [StarRing R] [TrivialStar R] [StarOrderedRing R] {m n : ℕ}

theorem appliedMatrix_psd (rsqrt : R → R) (hrs : ∀ x, 0 < x → 0 < rsqrt x) (alpha : R) (P : Mat R m n)
    (s2 : Vec R m) (hP : toM P * (toM P)ᵀ = 1) : (appliedMatrix rsqrt alpha P s2).PosSemidef := by
  have h := Loewner.conj_diagonal_psd (toM P)ᵀ fun i => safeInvert_nonneg rsqrt hrs (alpha + s2 i)
  rw [transpose_transpose] at h
  exact h.add
    ((Loewner.one_sub_proj_psd (toM P)ᵀ (by rwa [transpose_transpose])).smul (safeInvert_nonneg rsqrt hrs alpha))

end KernelPsd

section SketchField
variable {R : Type} [Field R] {n k : ℕ} (sqrt rsqrt : R → R) (algo : Algo) (lr : R)

theorem gram_fdB (st : FdState R k n) (g : Vec R n) (h0 : ∀ j, sketchRows st (Fin.last k) j = 0) :
    gram (fdB sqrt rsqrt algo lr st g) = gram (sketchRows st) +
      vecMulVec (gradInput (sketchFactor sqrt rsqrt algo (st.t + 1) lr) g)
        (gradInput (sketchFactor sqrt rsqrt algo (st.t + 1) lr) g) := by
  rw [fdB, forceM_eq, gram_setLastRow _ _ h0]

end SketchField

section Sketch
variable {R : Type} [Field R] [LinearOrder R] {n k : ℕ}
variable (svd : SvdFn R (k + 1) n) (sqrt rsqrt : R → R) (algo : Algo) (lr : R)

/-- the SVD kernel meets its specification on every matrix it is called with along the history -/
def SvdAlong : FdState R k n → List (Vec R n) → Prop
  | _, [] => True
  | st, g :: gs => SvdSpec (fdB sqrt rsqrt algo lr st g) (svd (fdB sqrt rsqrt algo lr st g)) ∧
      SvdAlong (fdUpdate svd sqrt rsqrt algo lr st g) gs

theorem fdInputsFrom_sAda (gs : List (Vec R n)) (st : FdState R k n) :
    fdInputsFrom svd sqrt rsqrt .sAda lr st gs = gs := by
  induction gs generalizing st with
  | nil => rfl
  | cons g gs ih => rw [fdInputsFrom, ih, gradInput_sAda]

variable [IsStrictOrderedRing R]

/-- second moment of the new sketch rows: the deflation `s ↦ (s-σ)(s+σ)`, `σ = σ_min`, lowers every eigenvalue `s_i²` of
`gram B` by exactly `ρ = σ²` (`fdRho`) -/
theorem gram_sketchRows_fdUpdate (hsq : ∀ x, 0 ≤ x → sqrt x * sqrt x = x) (st : FdState R k n) (g : Vec R n)
    (h : SvdSpec (fdB sqrt rsqrt algo lr st g) (svd (fdB sqrt rsqrt algo lr st g))) :
    gram (sketchRows (fdUpdate svd sqrt rsqrt algo lr st g))
      = (toM (svd (fdB sqrt rsqrt algo lr st g)).Vt)ᵀ
          * diagonal (fun i => (svd (fdB sqrt rsqrt algo lr st g)).s i * (svd (fdB sqrt rsqrt algo lr st g)).s i
              - fdRho svd sqrt rsqrt algo lr st g)
          * toM (svd (fdB sqrt rsqrt algo lr st g)).Vt := by
  have he : ∀ i, (fdUpdate svd sqrt rsqrt algo lr st g).e i * (fdUpdate svd sqrt rsqrt algo lr st g).e i
      = (svd (fdB sqrt rsqrt algo lr st g)).s i * (svd (fdB sqrt rsqrt algo lr st g)).s i
        - fdRho svd sqrt rsqrt algo lr st g := fun i => by
    rw [fdUpdate_e_sq svd sqrt rsqrt algo lr hsq st g h, deflate, fdRho]
    ring
  rw [← funext he]
  exact gram_scaled_rows (fdUpdate svd sqrt rsqrt algo lr st g).P _

theorem fd_exact_step (hsq : ∀ x, 0 ≤ x → sqrt x * sqrt x = x) (st : FdState R k n) (g : Vec R n)
    (h0 : ∀ j, sketchRows st (Fin.last k) j = 0)
    (h : SvdSpec (fdB sqrt rsqrt algo lr st g) (svd (fdB sqrt rsqrt algo lr st g)))
    (hρ : fdRho svd sqrt rsqrt algo lr st g = 0) :
    gram (sketchRows (fdUpdate svd sqrt rsqrt algo lr st g)) = gram (sketchRows st) +
      vecMulVec (gradInput (sketchFactor sqrt rsqrt algo (st.t + 1) lr) g)
        (gradInput (sketchFactor sqrt rsqrt algo (st.t + 1) lr) g) := by
  rw [gram_sketchRows_fdUpdate svd sqrt rsqrt algo lr hsq st g h, hρ, ← gram_fdB sqrt rsqrt algo lr st g h0,
    gram_of_svd h]
  simp only [sub_zero]

end Sketch

section Bracket
variable {R : Type} [Field R] [LinearOrder R] [IsStrictOrderedRing R] [StarRing R] [TrivialStar R] [StarOrderedRing R]
variable {n k : ℕ} (svd : SvdFn R (k + 1) n) (sqrt rsqrt : R → R) (algo : Algo) (lr : R)

/-- `Loewner.deflation` along the columns `Vtᵀ`, lowering the spectrum `s²` to `s² − ρ`, then `Loewner.bracket_step` at `β = 1` -/
theorem fd_bracket_step (hsq : ∀ x, 0 ≤ x → sqrt x * sqrt x = x) (st : FdState R k n) (g : Vec R n)
    (h0 : ∀ j, sketchRows st (Fin.last k) j = 0)
    (h : SvdSpec (fdB sqrt rsqrt algo lr st g) (svd (fdB sqrt rsqrt algo lr st g)))
    (C : Matrix (Fin n) (Fin n) R) (a : R)
    (hlo : (C - gram (sketchRows st)).PosSemidef)
    (hhi : (gram (sketchRows st) + a • (1 : Matrix (Fin n) (Fin n) R) - C).PosSemidef) :
    let gin := gradInput (sketchFactor sqrt rsqrt algo (st.t + 1) lr) g
    let st' := fdUpdate svd sqrt rsqrt algo lr st g
    let ρ := fdRho svd sqrt rsqrt algo lr st g
    (C + vecMulVec gin gin - gram (sketchRows st')).PosSemidef ∧
    (gram (sketchRows st') + (a + ρ) • (1 : Matrix (Fin n) (Fin n) R) - (C + vecMulVec gin gin)).PosSemidef := by
  intro gin st' ρ
  have hρ : 0 ≤ ρ := fdRho_nonneg svd sqrt rsqrt algo lr st g
  have hd := Loewner.deflation (toM (svd (fdB sqrt rsqrt algo lr st g)).Vt)ᵀ
    (by rw [transpose_transpose]; exact h.vt_ortho) hρ
    (σ := fun i => (svd (fdB sqrt rsqrt algo lr st g)).s i * (svd (fdB sqrt rsqrt algo lr st g)).s i)
    (fun i => sub_le_self _ hρ) (fun i => (sub_add_cancel _ ρ).ge)
  rw [transpose_transpose, ← gram_of_svd h, ← gram_sketchRows_fdUpdate svd sqrt rsqrt algo lr hsq st g h,
    gram_fdB sqrt rsqrt algo lr st g h0, ← one_smul R (gram (sketchRows st))] at hd
  have := Loewner.bracket_step zero_le_one hlo hhi hd.1 hd.2
  rwa [one_smul, one_mul] at this

theorem fd_bracket_from (hsq : ∀ x, 0 ≤ x → sqrt x * sqrt x = x) (gs : List (Vec R n)) :
    ∀ (st : FdState R k n), (∀ j, sketchRows st (Fin.last k) j = 0) →
    SvdAlong svd sqrt rsqrt algo lr st gs →
    ∀ (C : Matrix (Fin n) (Fin n) R) (a : R), (C - gram (sketchRows st)).PosSemidef →
    (gram (sketchRows st) + a • (1 : Matrix (Fin n) (Fin n) R) - C).PosSemidef →
    (C + inputsCov (fdInputsFrom svd sqrt rsqrt algo lr st gs)
      - gram (sketchRows (fdRunFrom svd sqrt rsqrt algo lr st gs))).PosSemidef ∧
    (gram (sketchRows (fdRunFrom svd sqrt rsqrt algo lr st gs))
      + (a + (fdRhosFrom svd sqrt rsqrt algo lr st gs).sum) • (1 : Matrix (Fin n) (Fin n) R)
      - (C + inputsCov (fdInputsFrom svd sqrt rsqrt algo lr st gs))).PosSemidef := by
  induction gs with
  | nil =>
    intro st _ _ C a hlo hhi
    rw [fdInputsFrom, fdRhosFrom, inputsCov_nil, List.sum_nil, add_zero, add_zero]
    exact ⟨hlo, hhi⟩
  | cons g gs ih =>
    intro st h0 hs C a hlo hhi
    obtain ⟨h1, h2⟩ := fd_bracket_step svd sqrt rsqrt algo lr hsq st g h0 hs.1 C a hlo hhi
    rw [fdRunFrom_cons, fdInputsFrom, fdRhosFrom, inputsCov_cons, List.sum_cons, ← add_assoc, ← add_assoc]
    exact ih (fdUpdate svd sqrt rsqrt algo lr st g)
      (fdUpdate_last_row svd sqrt rsqrt algo lr (sqrt_zero_of_spec sqrt hsq) st g) hs.2 _ _ h1 h2

end Bracket

section Lossless
variable {R : Type} [Field R] [LinearOrder R] [IsStrictOrderedRing R] {n k : ℕ}
variable (svd : SvdFn R (k + 1) n) (sqrt rsqrt : R → R) (algo : Algo) (lr : R)

/-- the second moment of the sketch rows is supported on the row space of `W` -/
def InSpan {r : ℕ} (W : Matrix (Fin r) (Fin n) R) (st : FdState R k n) : Prop :=
  ∃ Y : Matrix (Fin r) (Fin r) R, gram (sketchRows st) = Wᵀ * Y * W

theorem fd_lossless_step (hsq : ∀ x, 0 ≤ x → sqrt x * sqrt x = x) {r : ℕ} (hr : r < k + 1)
    (W : Matrix (Fin r) (Fin n) R) (st : FdState R k n) (g : Vec R n) (h0 : ∀ j, sketchRows st (Fin.last k) j = 0)
    (hst : InSpan W st) (hg : ∃ c : Fin r → R, g = c ᵥ* W)
    (h : SvdSpec (fdB sqrt rsqrt algo lr st g) (svd (fdB sqrt rsqrt algo lr st g))) :
    fdRho svd sqrt rsqrt algo lr st g = 0 ∧ InSpan W (fdUpdate svd sqrt rsqrt algo lr st g) := by
  obtain ⟨Y, hY⟩ := hst
  obtain ⟨c, rfl⟩ := hg
  obtain ⟨u, hu⟩ : ∃ u : Fin r → R, gradInput (sketchFactor sqrt rsqrt algo (st.t + 1) lr) (c ᵥ* W) = u ᵥ* W :=
    ⟨sketchFactor sqrt rsqrt algo (st.t + 1) lr • c, by
      funext j
      rw [smul_vecMul, Pi.smul_apply, smul_eq_mul, mul_comm]
      rfl⟩
  have hB : gram (fdB sqrt rsqrt algo lr st (c ᵥ* W)) = Wᵀ * (Y + vecMulVec u u) * W := by
    rw [gram_fdB sqrt rsqrt algo lr st _ h0, hY, hu, vecMulVec_vecMul, Matrix.mul_add, Matrix.add_mul]
  have hρ : fdRho svd sqrt rsqrt algo lr st (c ᵥ* W) = 0 := by
    rw [fdRho, fdSigmaMin, sigma_min_zero_of_gram h hr W _ hB, mul_zero]
  refine ⟨hρ, Y + vecMulVec u u, ?_⟩
  rw [fd_exact_step svd sqrt rsqrt algo lr hsq st _ h0 h hρ, ← gram_fdB sqrt rsqrt algo lr st _ h0, hB]

theorem fd_lossless_from (hsq : ∀ x, 0 ≤ x → sqrt x * sqrt x = x)
    {r : ℕ} (hr : r < k + 1) (W : Matrix (Fin r) (Fin n) R) (gs : List (Vec R n)) :
    ∀ (st : FdState R k n), (∀ j, sketchRows st (Fin.last k) j = 0) → InSpan W st →
    SvdAlong svd sqrt rsqrt algo lr st gs → (∀ g ∈ gs, ∃ c : Fin r → R, g = c ᵥ* W) →
    (∀ ρ ∈ fdRhosFrom svd sqrt rsqrt algo lr st gs, ρ = 0) ∧
    InSpan W (fdRunFrom svd sqrt rsqrt algo lr st gs) ∧
    gram (sketchRows (fdRunFrom svd sqrt rsqrt algo lr st gs))
      = gram (sketchRows st) + inputsCov (fdInputsFrom svd sqrt rsqrt algo lr st gs) := by
  induction gs with
  | nil => intro st _ hst _ _; simp [fdRhosFrom, fdRunFrom, fdInputsFrom, hst, inputsCov]
  | cons g gs ih =>
    intro st h0 hst hs hW
    obtain ⟨hρ, hst'⟩ := fd_lossless_step svd sqrt rsqrt algo lr hsq hr W st g h0 hst
      (hW g (List.mem_cons_self ..)) hs.1
    obtain ⟨h1, h2, h3⟩ := ih (fdUpdate svd sqrt rsqrt algo lr st g)
      (fdUpdate_last_row svd sqrt rsqrt algo lr (sqrt_zero_of_spec sqrt hsq) st g) hst' hs.2
      (fun x hx => hW x (List.mem_cons_of_mem _ hx))
    refine ⟨by rw [fdRhosFrom]; exact List.forall_mem_cons.mpr ⟨hρ, h1⟩, by simpa [fdRunFrom] using h2, ?_⟩
    · have := fd_exact_step svd sqrt rsqrt algo lr hsq st g h0 hs.1 hρ
      simp only [fdRunFrom_cons, fdInputsFrom, inputsCov_cons, h3, this]
      abel

theorem fdUpdate_w_sAda (st : FdState R k n) (g : Vec R n) (hsq : ∀ x, 0 ≤ x → sqrt x * sqrt x = x)
    (h : SvdSpec (fdB sqrt rsqrt .sAda lr st g) (svd (fdB sqrt rsqrt .sAda lr st g))) (j : Fin n) :
    (fdUpdate svd sqrt rsqrt .sAda lr st g).w j = st.w j - lr *
      (appliedMatrix rsqrt (fdUpdate svd sqrt rsqrt .sAda lr st g).alpha (fdUpdate svd sqrt rsqrt .sAda lr st g).P
        (fun i => (fdUpdate svd sqrt rsqrt .sAda lr st g).e i * (fdUpdate svd sqrt rsqrt .sAda lr st g).e i) *ᵥ g) j := by
  set o := svd (fdB sqrt rsqrt .sAda lr st g) with ho
  have he : (fun i => (fdUpdate svd sqrt rsqrt .sAda lr st g).e i * (fdUpdate svd sqrt rsqrt .sAda lr st g).e i)
      = deflate o.s (o.s (Fin.last k)) := funext (fdUpdate_e_sq svd sqrt rsqrt .sAda lr hsq st g h)
  rw [he, ← precondGeneric_eq]
  simp [fdUpdate, factors, fdDirection, ← ho]

variable [StarRing R] [TrivialStar R] [StarOrderedRing R]

/-- `ρ = 0` by `fd_lossless_step`, so `alpha` and the second moment update exactly; `X` is `appliedMatrix` at the updated state -/
theorem sada_lossless_step (hsq : ∀ x, 0 ≤ x → sqrt x * sqrt x = x)
    (hrs : ∀ x, 0 < x → 0 < rsqrt x ∧ rsqrt x * rsqrt x * x = 1)
    {r : ℕ} (hr : r < k + 1) (W : Matrix (Fin r) (Fin n) R) (st : FdState R k n) (g : Vec R n)
    (hst : InSpan W st) (h0 : ∀ j, sketchRows st (Fin.last k) j = 0) (hα : 0 < st.alpha)
    (hg : ∃ c : Fin r → R, g = c ᵥ* W)
    (h : SvdSpec (fdB sqrt rsqrt .sAda lr st g) (svd (fdB sqrt rsqrt .sAda lr st g))) :
    fdRho svd sqrt rsqrt .sAda lr st g = 0 ∧
    (fdUpdate svd sqrt rsqrt .sAda lr st g).alpha = st.alpha ∧
    gram (sketchRows (fdUpdate svd sqrt rsqrt .sAda lr st g)) = gram (sketchRows st) + vecMulVec g g ∧
    ∃ X : Matrix (Fin n) (Fin n) R,
      (∀ j, (fdUpdate svd sqrt rsqrt .sAda lr st g).w j = st.w j - lr * (X *ᵥ g) j) ∧
      X.PosSemidef ∧
      X * X * (st.alpha • (1 : Matrix (Fin n) (Fin n) R) + (gram (sketchRows st) + vecMulVec g g)) = 1 := by
  obtain ⟨hρ, -⟩ := fd_lossless_step svd sqrt rsqrt .sAda lr hsq hr W st g h0 hst hg h
  have hα' : (fdUpdate svd sqrt rsqrt .sAda lr st g).alpha = st.alpha := by
    rw [fdUpdate_alpha, hρ, mul_zero, add_zero]
  have hgram' : gram (sketchRows (fdUpdate svd sqrt rsqrt .sAda lr st g))
      = gram (sketchRows st) + vecMulVec g g := by
    rw [fd_exact_step svd sqrt rsqrt .sAda lr hsq st g h0 h hρ, gradInput_sAda]
  refine ⟨hρ, hα', hgram', ?_⟩
  have hP : toM (fdUpdate svd sqrt rsqrt .sAda lr st g).P * (toM (fdUpdate svd sqrt rsqrt .sAda lr st g).P)ᵀ = 1 :=
    h.vt_ortho
  refine ⟨_, fun j => fdUpdate_w_sAda svd sqrt rsqrt lr st g hsq h j,
    appliedMatrix_psd rsqrt (fun x hx => (hrs x hx).1) _ _ _ hP, ?_⟩
  have := appliedMatrix_inverse_root rsqrt hrs (fdUpdate svd sqrt rsqrt .sAda lr st g).alpha
    (by rw [hα']; exact hα) (fdUpdate svd sqrt rsqrt .sAda lr st g).P
    (fun i => (fdUpdate svd sqrt rsqrt .sAda lr st g).e i * (fdUpdate svd sqrt rsqrt .sAda lr st g).e i)
    (fun i => mul_self_nonneg _) hP
  rw [← gram_scaled_rows] at this
  have hrows : (fun i j => (fdUpdate svd sqrt rsqrt .sAda lr st g).P i j * (fdUpdate svd sqrt rsqrt .sAda lr st g).e i)
      = sketchRows (fdUpdate svd sqrt rsqrt .sAda lr st g) := rfl
  rw [hrows, hgram'] at this
  rw [← hα']
  exact this

end Lossless
end PrecondVerif.OCO

/-! The concrete SVD, `rsqrt` kernel and row space of the non-vacuity examples of `Props/C16.lean`. They stand here because
`Props/C16.lean` holds the property theorems only (every theorem there is counted as one by the check harness). -/

namespace PrecondVerif.C16
open PrecondVerif.OCO Matrix

/-- a concrete exact SVD of the first matrix `[[0,0],[3,4]]` S-AdaGrad builds in dimension 2 with
sketch size 2: `U = [[0,1],[1,0]]`, `s = (5,0)`, `Vt = [[3/5,4/5],[-4/5,3/5]]`. -/
noncomputable def exSvd : SvdFn ℝ 2 2 := fun _ =>
  { U := ![![0, 1], ![1, 0]], s := ![5, 0], Vt := ![![3 / 5, 4 / 5], ![-4 / 5, 3 / 5]] }

theorem exSvd_spec : SvdSpec (fdB Real.sqrt (fun x => 1 / Real.sqrt x) .sAda (1 / 4 : ℝ) (fdInit 1 2 (1 / 2 : ℝ)) ![3, 4])
    (exSvd (fdB Real.sqrt (fun x => 1 / Real.sqrt x) .sAda (1 / 4 : ℝ) (fdInit 1 2 (1 / 2 : ℝ)) ![3, 4])) where
  recon := by
    -- the model indexes by `Fin (1 + 1)`, on which `Fin.forall_fin_two` does not fire: every field restates its binders at `Fin 2`
    show ∀ (i j : Fin 2), _
    simp only [Fin.forall_fin_two, sumFin_eq, Fin.sum_univ_succ, Fin.sum_univ_zero, Matrix.cons_val_succ, exSvd, fdB, forceM_eq, setLastRow, sketchRows, fdInit,
      gradInput, sketchFactor, Matrix.cons_val_zero, Matrix.cons_val_one, Fin.isValue]
    norm_num [Fin.last]
  vOrtho := by
    show ∀ (a b : Fin 2), _
    simp only [Fin.forall_fin_two, sumFin_eq, Fin.sum_univ_two, exSvd, Matrix.cons_val_zero, Matrix.cons_val_one, Fin.isValue]
    norm_num
  uOrtho := by
    show ∀ (a b : Fin 2), _
    simp only [Fin.forall_fin_two, sumFin_eq, Fin.sum_univ_succ, Fin.sum_univ_zero, Matrix.cons_val_succ, exSvd,
      Matrix.cons_val_zero, Matrix.cons_val_one, Fin.isValue]
    norm_num
  nonneg := by
    show ∀ (a : Fin 2), _
    simp only [Fin.forall_fin_two, exSvd, Matrix.cons_val_zero, Matrix.cons_val_one, Fin.isValue]
    norm_num
  sorted := by
    show ∀ (a b : Fin 2), _
    simp only [Fin.forall_fin_two, exSvd, Matrix.cons_val_zero, Matrix.cons_val_one, Fin.isValue]
    norm_num

theorem exRsqrt_spec (x : ℝ) (hx : 0 < x) : 0 < 1 / Real.sqrt x ∧ 1 / Real.sqrt x * (1 / Real.sqrt x) * x = 1 :=
  ⟨one_div_pos.mpr (Real.sqrt_pos.mpr hx),
    by rw [div_mul_div_comm, one_mul, Real.mul_self_sqrt hx.le, one_div_mul_cancel hx.ne']⟩

/-- the example history `[(3, 4)]` lies in the row space of `[[3, 4]]` -/
theorem exHist_mem_rowSpace : ∀ x ∈ [(![3, 4] : Vec ℝ 2)], ∃ c : Fin 1 → ℝ, x = c ᵥ* (!![3, 4] : Matrix (Fin 1) (Fin 2) ℝ) := by
  intro x hx
  rw [List.mem_singleton.mp hx]
  refine ⟨![1], ?_⟩
  funext j
  fin_cases j <;> simp [vecMul, dotProduct]

end PrecondVerif.C16
