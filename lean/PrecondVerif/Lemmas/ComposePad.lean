/-
Padding invariance of C01's Newton routine and power iteration: the run on `blockdiag(A, ·)` of size `N` with
`padding_start = s` IS `blockdiag(run on A, 0)`.  `Sim` is a simulation between two operation records through a relation
preserved by every operation the iteration uses; all scalars — errors, ratios, counters, hence the branch conditions — are
EQUAL on both sides, so both runs take the same branches.  `IsEmb X Y` ("`X = blockdiag(Y, 0)`") is such a relation between
`matAlg N s` and `matAlg s s`; `mat_power(·, p) @ ·` goes through `Rep.matPower`.
-/
import PrecondVerif.Model.Compose
import PrecondVerif.Lemmas.InvRoot
import PrecondVerif.Lemmas.BlockDiag
import PrecondVerif.Lemmas.Basic.FinSum

namespace PrecondVerif.Compose
open PrecondVerif.InvRoot

section Sim
variable {M₁ M₂ α : Type} [Add α] [Sub α] [Mul α] [Div α] [Zero α] [One α] [OfNat α 2] [OfNat α 10] [LT α]
  [DecidableLT α]

-- `pow` is a field and there is no `one`: `I_N` is not `blockdiag(I_s, 0)`, so `mat_power(x, p)` alone is not related,
-- only `mat_power(x, p) @ m` is
structure Sim (K₁ : Alg M₁ α) (K₂ : Alg M₂ α) (R : M₁ → M₂ → Prop) : Prop where
  mul : ∀ {x x' y y'}, R x y → R x' y' → R (K₁.mul x x') (K₂.mul y y')
  add : ∀ {x x' y y'}, R x y → R x' y' → R (K₁.add x x') (K₂.add y y')
  smul : ∀ (c : α) {x y}, R x y → R (K₁.smul c x) (K₂.smul c y)
  e : R K₁.e K₂.e
  dist : ∀ {x y}, R x y → K₁.dist x = K₂.dist y
  fro : ∀ {x y}, R x y → K₁.fro x = K₂.fro y
  pow : ∀ (p : Nat) {x y m m'}, R x y → R m m' →
    R (K₁.mul (matPower K₁.mul K₁.one x p) m) (K₂.mul (matPower K₂.mul K₂.one y p) m')

/-- two inner-loop states agree on every scalar and are `R`-related on every matrix -/
structure NRel (R : M₁ → M₂ → Prop) (a : NState M₁ α) (b : NState M₂ α) : Prop where
  i : a.i = b.i
  m : R a.m b.m
  h : R a.h b.h
  hold : R a.hold b.hold
  err : a.err = b.err
  ratio : a.ratio = b.ratio

/-- two retry-loop states agree on every scalar and are `R`-related on the root -/
structure ORel (R : M₁ → M₂ → Prop) (a : OState M₁ α) (b : OState M₂ α) : Prop where
  tries : a.tries = b.tries
  x : R a.x b.x
  err : a.err = b.err
  iters : a.iters = b.iters
  ratio : a.ratio = b.ratio
  failed : a.failed = b.failed

variable {K₁ : Alg M₁ α} {K₂ : Alg M₂ α} {R : M₁ → M₂ → Prop}

omit [Add α] [Mul α] [Zero α] [OfNat α 2] [OfNat α 10] [LT α] [DecidableLT α] in
theorem Sim.iterBody (S : Sim K₁ K₂ R) (p : Nat) (alpha : α) {a : NState M₁ α} {b : NState M₂ α} (h : NRel R a b) :
    NRel R (iterBody K₁ p alpha a) (iterBody K₂ p alpha b) := by
  have hmi := S.add (S.smul (1 - alpha) S.e) (S.smul alpha h.m)
  have hm' := S.pow p hmi h.m
  exact ⟨by simp [InvRoot.iterBody, h.i], hm', S.mul h.h hmi, h.h, S.dist hm',
    by simp only [InvRoot.iterBody]; rw [S.dist hm', h.err]⟩

set_option linter.unusedSectionVars false in
theorem Sim.newtonInner (S : Sim K₁ K₂ R) (c : NConsts α) (p : Nat) (alpha : α) :
    ∀ (f : Nat) {a : NState M₁ α} {b : NState M₂ α}, NRel R a b →
      NRel R (newtonInner K₁ c p alpha f a) (newtonInner K₂ c p alpha f b) :=
  fuelLoop_rel (fun _ => rfl) (fun _ _ => rfl) (fun _ => rfl) (fun _ _ => rfl)
    (fun h => by simp only [iterCond, h.i, h.err, h.ratio]) (S.iterBody p alpha)

omit [Sub α] [Zero α] [LT α] [DecidableLT α] in
theorem Sim.innerInit (S : Sim K₁ K₂ R) (pα : α) (rootp : α → α) {A₁ : M₁} {A₂ : M₂} (hA : R A₁ A₂) (ridge : α)
    (i : Nat) : NRel R (innerInit K₁ pα rootp A₁ ridge i) (innerInit K₂ pα rootp A₂ ridge i) := by
  have hd : R (damped K₁ A₁ ridge i) (damped K₂ A₂ ridge i) := S.add hA (S.smul _ S.e)
  have hf := S.fro hd
  simp only [InvRoot.innerInit]
  rw [hf]
  have hm0 := S.smul ((1 + pα) / (2 * K₂.fro (InvRoot.damped K₂ A₂ ridge i))) hd
  exact ⟨rfl, hm0, S.smul _ S.e, S.smul _ S.e, S.dist hm0, rfl⟩

omit [Add α] [Mul α] [Div α] [OfNat α 2] [OfNat α 10] in
theorem Sim.blend (S : Sim K₁ K₂ R) (c : NConsts α) {a : NState M₁ α} {b : NState M₂ α} (h : NRel R a b) :
    R (blend K₁ c a) (blend K₂ c b) := by
  simp only [InvRoot.blend, h.ratio]
  exact S.add (S.smul _ h.h) (S.smul _ h.hold)

theorem Sim.outerBody (S : Sim K₁ K₂ R) (c : NConsts α) (p : Nat) (pα alpha : α) (rootp cast32 : α → α)
    {A₁ : M₁} {A₂ : M₂} (hA : R A₁ A₂) (ridge : α) (i : Nat) :
    ORel R (outerBody K₁ c p pα alpha rootp cast32 A₁ ridge i) (outerBody K₂ c p pα alpha rootp cast32 A₂ ridge i) := by
  have h := S.newtonInner c p alpha c.numIters (S.innerInit pα rootp hA ridge i)
  have hd := S.dist h.m
  exact ⟨rfl, S.blend c h, by simp only [InvRoot.outerBody, hd], h.i, h.ratio, by simp only [InvRoot.outerBody, hd]⟩

theorem Sim.newtonOuter (S : Sim K₁ K₂ R) (c : NConsts α) (p : Nat) (pα alpha : α) (rootp cast32 : α → α)
    (thousand : α) {A₁ : M₁} {A₂ : M₂} (hA : R A₁ A₂) (ridge : α) :
    ORel R (newtonOuter K₁ c p pα alpha rootp cast32 thousand A₁ ridge)
      (newtonOuter K₂ c p pα alpha rootp cast32 thousand A₂ ridge) :=
  fuelLoop_rel (loop₁ := outerLoop _ c.numTries) (loop₂ := outerLoop _ c.numTries) (fun _ => rfl) (fun _ _ => rfl)
    (fun _ => rfl) (fun _ _ => rfl) (fun h => by rw [h.failed, h.tries])
    (fun h => h.tries ▸ S.outerBody c p pα alpha rootp cast32 hA ridge _) c.numTries ⟨rfl, S.e, rfl, rfl, rfl, rfl⟩

end Sim

section Emb
variable {α : Type} [Field α] {s N : Nat}

/-- `blockdiag(Y, 0)` as a total index function (= `toMx`) -/
def embF (Y : Mat α s s) : Nat → Nat → α := fun i j => if h : i < s ∧ j < s then Y ⟨i, h.1⟩ ⟨j, h.2⟩ else 0

/-- "`X` (size `N`) is `blockdiag(Y, 0)`" -/
def IsEmb (X : Mat α N N) (Y : Mat α s s) : Prop := ∀ i j : Fin N, X i j = embF Y i.val j.val

theorem embF_eq_toMx (Y : Mat α s s) : embF Y = toMx Y := rfl

theorem embF_live (Y : Mat α s s) (i j : Fin s) : embF Y i.val j.val = Y i j := by
  unfold embF; rw [dif_pos ⟨i.isLt, j.isLt⟩]

theorem embF_dead (Y : Mat α s s) (i j : Nat) (h : s ≤ i ∨ s ≤ j) : embF Y i j = 0 := by
  unfold embF; rw [dif_neg]; omega

theorem IsEmb.live {X : Mat α N N} {Y : Mat α s s} (h : IsEmb X Y) (i j : Fin N) (hi : i.val < s) (hj : j.val < s) :
    X i j = Y ⟨i, hi⟩ ⟨j, hj⟩ :=
  (h i j).trans (embF_live Y ⟨i, hi⟩ ⟨j, hj⟩)

theorem IsEmb.dead {X : Mat α N N} {Y : Mat α s s} (h : IsEmb X Y) (i j : Fin N) (hd : s ≤ i.val ∨ s ≤ j.val) :
    X i j = 0 :=
  (h i j).trans (embF_dead Y _ _ hd)

theorem isEmb_of {X : Mat α N N} {Y : Mat α s s}
    (hlive : ∀ (i j : Fin N) (hi : i.val < s) (hj : j.val < s), X i j = Y ⟨i, hi⟩ ⟨j, hj⟩)
    (hdead : ∀ i j : Fin N, s ≤ i.val ∨ s ≤ j.val → X i j = 0) : IsEmb X Y := by
  intro i j
  by_cases hij : i.val < s ∧ j.val < s
  · rw [hlive i j hij.1 hij.2]; exact (embF_live Y ⟨i, hij.1⟩ ⟨j, hij.2⟩).symm
  · rw [hdead i j (by omega), embF_dead Y _ _ (by omega)]

theorem IsEmb.mul (hs : s ≤ N) {X X' : Mat α N N} {Y Y' : Mat α s s} (h : IsEmb X Y) (h' : IsEmb X' Y') :
    IsEmb (Mat.mul X X') (Mat.mul Y Y') := by
  refine isEmb_of (fun i j hi hj => ?_) (fun i j hd => ?_)
  · simp only [Mat.mul, sumFin_eq_sum]
    exact sum_fin_emb hs _ _ (fun l => by rw [h.live _ _ hi l.isLt, h'.live _ _ l.isLt hj]; rfl)
      (fun l hl => by rw [h.dead i l (Or.inr hl), zero_mul])
  · simp only [Mat.mul, sumFin_eq_sum]
    refine Finset.sum_eq_zero fun l _ => ?_
    rcases hd with hd | hd
    · rw [h.dead i l (Or.inl hd), zero_mul]
    · rw [h'.dead l j (Or.inr hd), mul_zero]

/-- an entrywise operation that fixes `0` keeps the zero extension -/
theorem IsEmb.map₂ (f : α → α → α) (hf : f 0 0 = 0) {X X' : Mat α N N} {Y Y' : Mat α s s} (h : IsEmb X Y)
    (h' : IsEmb X' Y') : IsEmb (fun i j => f (X i j) (X' i j)) (fun i j => f (Y i j) (Y' i j)) := by
  intro i j
  simp only [h i j, h' i j, embF]
  split
  · rfl
  · exact hf

theorem IsEmb.add {X X' : Mat α N N} {Y Y' : Mat α s s} (h : IsEmb X Y) (h' : IsEmb X' Y') :
    IsEmb (Mat.add X X') (Mat.add Y Y') :=
  h.map₂ (· + ·) (add_zero 0) h'

theorem IsEmb.sub {X X' : Mat α N N} {Y Y' : Mat α s s} (h : IsEmb X Y) (h' : IsEmb X' Y') :
    IsEmb (Mat.sub X X') (Mat.sub Y Y') :=
  h.map₂ (· - ·) (sub_zero 0) h'

theorem IsEmb.smul (c : α) {X : Mat α N N} {Y : Mat α s s} (h : IsEmb X Y) : IsEmb (Mat.smul c X) (Mat.smul c Y) :=
  h.map₂ (fun x _ => c * x) (mul_zero c) h

theorem IsEmb.maskedId : IsEmb (Mat.maskedId s : Mat α N N) (Mat.maskedId s : Mat α s s) := by
  intro i j
  simp only [Mat.maskedId, Mat.one, Mat.ix, embF]
  by_cases hij : i.val < s ∧ j.val < s
  · rw [dif_pos hij]; simp only [hij.2, if_true, Fin.ext_iff]
  · rw [dif_neg hij]
    by_cases hj : j.val < s
    · have : i ≠ j := by intro e; subst e; exact hij ⟨hj, hj⟩
      simp [this]
    · simp [hj]

theorem IsEmb.sumsq (hs : s ≤ N) {X : Mat α N N} {Y : Mat α s s} (h : IsEmb X Y) :
    (sumFin fun i => sumFin fun j => X i j * X i j) = sumFin fun i => sumFin fun j => Y i j * Y i j := by
  simp only [sumFin_eq_sum]
  exact sum_fin_emb hs _ _
    (fun i => sum_fin_emb hs _ _ (fun j => by rw [h.live _ _ i.isLt j.isLt]; rfl)
      (fun j hj => by rw [h.dead _ j (Or.inr hj), zero_mul]))
    (fun i hi => Finset.sum_eq_zero fun j _ => by rw [h.dead i j (Or.inl hi), zero_mul])

theorem IsEmb.pow_mul (hs : s ≤ N) (p : Nat) : ∀ {X Mm : Mat α N N} {Y Mm' : Mat α s s}, IsEmb X Y → IsEmb Mm Mm' →
    IsEmb (Matrix.of X ^ p * Matrix.of Mm : MatR α N) (Matrix.of Y ^ p * Matrix.of Mm' : MatR α s) := by
  induction p with
  | zero =>
    intro _ _ _ _ _ hM
    rw [pow_zero, one_mul, pow_zero, one_mul]
    exact hM
  | succ p ih =>
    intro X Mm Y Mm' hX hM
    have h := ih hX (IsEmb.mul hs hX hM)
    rw [← of_mul_of, ← of_mul_of, ← mul_assoc, ← mul_assoc, ← pow_succ, ← pow_succ] at h
    exact h

end Emb

section Embed
variable {α : Type} [Field α] [LinearOrder α] [IsStrictOrderedRing α] {s N : Nat}

theorem IsEmb.maxAbs (hs : s ≤ N) {X : Mat α N N} {Y : Mat α s s} (h : IsEmb X Y) : Mat.maxAbs X = Mat.maxAbs Y := by
  apply le_antisymm
  · refine maxAbs_le _ _ (maxAbs_nonneg _) fun i j => ?_
    by_cases hij : i.val < s ∧ j.val < s
    · rw [h.live i j hij.1 hij.2]; exact le_maxAbs _ _ _
    · rw [h.dead i j (by omega), abs_zero]; exact maxAbs_nonneg _
  · refine maxAbs_le _ _ (maxAbs_nonneg _) fun i j => ?_
    exact (h.live (Fin.castLE hs i) (Fin.castLE hs j) i.isLt j.isLt) ▸ le_maxAbs X _ _

/-- `mat_power(x, p) @ m` of C01's operation record, read as a Mathlib matrix product -/
theorem matAlg_matPower_mul_fn {n : Nat} (sqrt : α → α) (x m : DMat α n) (p : Nat) :
    ((matAlg n s sqrt).mul (matPower (matAlg n s sqrt).mul (matAlg n s sqrt).one x p) m).fn = toM x ^ p * toM m := by
  rw [← (matAlg_rep s sqrt).matPower x p, ← (matAlg_rep s sqrt).mul]
  rfl

theorem matAlg_sim (hs : s ≤ N) (sqrt : α → α) :
    Sim (matAlg N s sqrt) (matAlg s s sqrt) (fun X Y => IsEmb X.fn Y.fn) where
  mul := fun h h' => by rw [matAlg_mul_fn, matAlg_mul_fn]; exact IsEmb.mul hs h h'
  add := fun h h' => by rw [matAlg_add_fn, matAlg_add_fn]; exact IsEmb.add h h'
  smul := fun c _ _ h => by rw [matAlg_smul_fn, matAlg_smul_fn]; exact IsEmb.smul c h
  e := by rw [matAlg_e_fn, matAlg_e_fn]; exact IsEmb.maskedId
  dist := fun h => by
    rw [matAlg_dist, matAlg_dist]
    exact IsEmb.maxAbs hs (IsEmb.sub h IsEmb.maskedId)
  fro := fun h => by
    rw [matAlg_fro, matAlg_fro, Mat.fro, Mat.fro, IsEmb.sumsq hs h]
  pow := fun p x y m m' hx hm => by
    rw [matAlg_matPower_mul_fn, matAlg_matPower_mul_fn]
    exact IsEmb.pow_mul hs p hx hm

end Embed

section Newton
open PrecondVerif.BlockDiag
variable {α : Type} [Field α] [LinearOrder α] [IsStrictOrderedRing α] {s N : Nat}

theorem newtonRoot_padding_invariant (hs : s ≤ N) (c : NConsts α) (p : Nat) (pα alpha : α) (sqrt rootp cast32 : α → α)
    (thousand epsFloor eps maxEv : α) (A₁ : Mat α N N) (A₂ : Mat α s s)
    (hA : IsEmb (Mat.mask s A₁) (Mat.mask s A₂)) :
    let r₁ := newtonRoot s c p pα alpha sqrt rootp cast32 thousand epsFloor eps maxEv A₁
    let r₂ := newtonRoot s c p pα alpha sqrt rootp cast32 thousand epsFloor eps maxEv A₂
    IsEmb r₁.x r₂.x ∧ r₁.err = r₂.err ∧ r₁.iters = r₂.iters ∧ r₁.ratio = r₂.ratio ∧ r₁.retries = r₂.retries := by
  intro r₁ r₂
  have hR : IsEmb (DMat.tab (Mat.mask s A₁)).fn (DMat.tab (Mat.mask s A₂)).fn := by simpa using hA
  have h := (matAlg_sim hs sqrt).newtonOuter c p pα alpha rootp cast32 thousand hR (ridgeOf eps maxEv epsFloor)
  simp only [r₁, r₂, newtonRoot]
  split
  next h0 => exact ⟨fun i j => (embF_dead _ _ _ (Or.inl (h0 ▸ Nat.zero_le _))).symm, rfl, h.iters, h.ratio, h.tries⟩
  next => exact ⟨h.x, h.err, h.iters, h.ratio, h.tries⟩

omit [LinearOrder α] [IsStrictOrderedRing α] in
theorem mask_padSq_isEmb (a : A2 α) :
    IsEmb (Mat.mask s (ofA2 N (padSq s N a))) (Mat.mask s (ofA2 s a)) := by
  refine isEmb_of (fun i j hi hj => ?_) (fun i j hd => ?_)
  · simp only [Mat.mask, Mat.ix, hi, hj, if_true, mul_one, ofA2, padSq]
    rw [rdM_tabM, if_pos ⟨i.isLt, j.isLt⟩]
    unfold padSqF
    rw [if_pos ⟨hi, hj⟩]
  · simp only [Mat.mask, Mat.ix]
    rcases hd with hd | hd
    · rw [if_neg (Nat.not_lt.mpr hd), mul_zero]
    · rw [if_neg (Nat.not_lt.mpr hd), mul_zero, zero_mul]

omit [LinearOrder α] [IsStrictOrderedRing α] in
theorem cut_of_isEmb (hs : s ≤ N) {X : Mat α N N} {Y : Mat α s s} (h : IsEmb X Y) :
    (fun i j => if h : (i < s ∧ j < s) ∧ (i < N ∧ j < N) then X ⟨i, h.2.1⟩ ⟨j, h.2.2⟩ else 0) = toMx Y := by
  rw [← embF_eq_toMx]
  funext i j
  by_cases hij : i < s ∧ j < s
  · rw [dif_pos (⟨hij, by omega⟩ : (i < s ∧ j < s) ∧ (i < N ∧ j < N)), h ⟨i, by omega⟩ ⟨j, by omega⟩]
  · rw [dif_neg (fun hh : (i < s ∧ j < s) ∧ (i < N ∧ j < N) => hij hh.1), embF_dead Y i j (by omega)]

/-- `pad → root(padding_start = s) → cut` of C01's routine is the routine on the statistic itself, provided the `max_ev`
input is the same for both -/
theorem paddedRootC01_eq (Nw : NewtonCfg α) (hs : s ≤ N) (a : A2 α)
    (hmax : Nw.maxEvOf N s (ofA2 N (padSq s N a)) = Nw.maxEvOf s s (ofA2 s a)) :
    paddedRootC01 Nw N s a =
      (toMx (newtonOut Nw s (ofA2 s a)).x, (newtonOut Nw s (ofA2 s a)).err, (newtonOut Nw s (ofA2 s a)).retries) := by
  unfold paddedRootC01 newtonOut
  dsimp only
  rw [hmax]
  obtain ⟨hx, herr, _, _, hret⟩ := newtonRoot_padding_invariant hs Nw.c Nw.p Nw.pα Nw.alpha Nw.sqrt Nw.rootp Nw.cast32
    Nw.thousand Nw.epsFloor Nw.eps (Nw.maxEvOf s s (ofA2 s a)) _ _ (mask_padSq_isEmb a)
  exact Prod.ext (cut_of_isEmb hs hx) (Prod.ext herr hret)

end Newton

section EmbV
variable {α : Type} [Field α] {s N : Nat}

/-- the zero extension of a vector as a total index function -/
def embV (v : Vec α s) : Nat → α := fun i => if h : i < s then v ⟨i, h⟩ else 0
/-- "`v₁` (size `N`) is `v₂` followed by zeros" -/
def IsEmbV (v₁ : Vec α N) (v₂ : Vec α s) : Prop := ∀ i : Fin N, v₁ i = embV v₂ i.val

theorem embV_live (v : Vec α s) (i : Fin s) : embV v i.val = v i := by unfold embV; rw [dif_pos i.isLt]
theorem embV_dead (v : Vec α s) (i : Nat) (h : s ≤ i) : embV v i = 0 := by unfold embV; rw [dif_neg]; omega

theorem IsEmbV.live {v₁ : Vec α N} {v₂ : Vec α s} (h : IsEmbV v₁ v₂) (i : Fin N) (hi : i.val < s) : v₁ i = v₂ ⟨i, hi⟩ :=
  (h i).trans (embV_live v₂ ⟨i, hi⟩)

theorem IsEmbV.dead {v₁ : Vec α N} {v₂ : Vec α s} (h : IsEmbV v₁ v₂) (i : Fin N) (hi : s ≤ i.val) : v₁ i = 0 :=
  (h i).trans (embV_dead v₂ _ hi)

theorem IsEmbV.dot (hs : s ≤ N) {u₁ v₁ : Vec α N} {u₂ v₂ : Vec α s} (hu : IsEmbV u₁ u₂) (hv : IsEmbV v₁ v₂) :
    dot u₁ v₁ = dot u₂ v₂ := by
  simp only [InvRoot.dot, sumFin_eq_sum]
  exact sum_fin_emb hs _ _ (fun l => by rw [hu.live _ l.isLt, hv.live _ l.isLt]; rfl)
    (fun l hl => by rw [hu.dead l hl, zero_mul])

theorem IsEmbV.mulVec (hs : s ≤ N) {A₁ : Mat α N N} {A₂ : Mat α s s} (hA : IsEmb A₁ A₂) {v₁ : Vec α N} {v₂ : Vec α s}
    (hv : IsEmbV v₁ v₂) : IsEmbV (Mat.mulVec A₁ v₁) (Mat.mulVec A₂ v₂) := by
  intro i
  by_cases hi : i.val < s
  · rw [embV_live (Mat.mulVec A₂ v₂) ⟨i, hi⟩]
    simp only [Mat.mulVec, sumFin_eq_sum]
    exact sum_fin_emb hs _ _ (fun l => by rw [hA.live _ _ hi l.isLt, hv.live _ l.isLt]; rfl)
      (fun l hl => by rw [hv.dead l hl, mul_zero])
  · rw [embV_dead _ _ (by omega)]
    simp only [Mat.mulVec, sumFin_eq_sum]
    exact Finset.sum_eq_zero fun j _ => by rw [hA.dead i j (Or.inl (by omega)), zero_mul]

theorem IsEmbV.map (f : α → α) (hf : f 0 = 0) {v₁ : Vec α N} {v₂ : Vec α s} (h : IsEmbV v₁ v₂) :
    IsEmbV (fun i => f (v₁ i)) (fun i => f (v₂ i)) := by
  intro i
  simp only [h i, embV]
  split
  · rfl
  · exact hf

end EmbV

section PI
variable {α : Type} [Field α] [LinearOrder α] {s N : Nat}

/-- lockstep relation of the two power iterations; field `s` is the eigenvalue estimate `PIState.s` -/
structure PIRel (a : PIState α N) (b : PIState α s) : Prop where
  i : a.i = b.i
  v : IsEmbV a.v.fn b.v.fn
  s : a.s = b.s
  run : a.run = b.run

theorem piBody_rel (hs : s ≤ N) (sqrt : α → α) (tol : α) {A₁ : Mat α N N} {A₂ : Mat α s s} (hA : IsEmb A₁ A₂)
    {a : PIState α N} {b : PIState α s} (h : PIRel a b) : PIRel (piBody sqrt tol A₁ a) (piBody sqrt tol A₂ b) := by
  have hn : dot a.v.fn a.v.fn = dot b.v.fn b.v.fn := IsEmbV.dot hs h.v h.v
  have hnv : IsEmbV (fun i => a.v.fn i / sqrt (dot a.v.fn a.v.fn)) (fun i => b.v.fn i / sqrt (dot b.v.fn b.v.fn)) := by
    rw [hn]
    exact h.v.map (· / sqrt (dot b.v.fn b.v.fn)) (zero_div _)
  have hsv := IsEmbV.mulVec hs hA hnv
  have hsn := IsEmbV.dot hs hnv hsv
  refine ⟨?_, ?_, ?_, ?_⟩ <;> simp only [piBody, DVec.fn_tab]
  · rw [h.i]
  · exact hsv
  · exact hsn
  · rw [hsn, h.s]

theorem powerIteration_padding_invariant (hs : s ≤ N) (sqrt : α → α) (tol : α) (numIters : Nat) {A₁ : Mat α N N}
    {A₂ : Mat α s s} (hA : IsEmb A₁ A₂) {v₁ : Vec α N} {v₂ : Vec α s} (hv : IsEmbV v₁ v₂) :
    powerIteration sqrt tol numIters A₁ v₁ = powerIteration sqrt tol numIters A₂ v₂ := by
  unfold powerIteration
  exact PIRel.s (fuelLoop_rel (loop₁ := piLoop sqrt tol A₁ numIters) (loop₂ := piLoop sqrt tol A₂ numIters)
    (fun _ => rfl) (fun _ _ => rfl) (fun _ => rfl) (fun _ _ => rfl) (fun h => by rw [h.i, h.run])
    (piBody_rel hs sqrt tol hA) numIters ⟨rfl, by simpa using hv, rfl, rfl⟩)

end PI

section MaxEv
open PrecondVerif.BlockDiag
variable {α : Type} [Field α] [LinearOrder α] {s N : Nat}

/-- the `max_ev` input of the routine does not see the padding -/
def MaxEvPadOK (Nw : NewtonCfg α) : Prop :=
  ∀ (N s : Nat) (a : A2 α), s ≤ N → Nw.maxEvOf N s (ofA2 N (padSq s N a)) = Nw.maxEvOf s s (ofA2 s a)

theorem piMaxEv_padding_invariant (hs : s ≤ N) (sqrt : α → α) (tol : α) (numIters : Nat) (u : Nat → α) (a : A2 α) :
    piMaxEv sqrt tol numIters u N s (ofA2 N (padSq s N a)) = piMaxEv sqrt tol numIters u s s (ofA2 s a) := by
  unfold piMaxEv
  apply powerIteration_padding_invariant hs sqrt tol numIters (mask_padSq_isEmb a)
  intro i
  unfold embV
  by_cases hi : i.val < s
  · rw [dif_pos hi]
  · rw [dif_neg hi]; exact if_neg hi

end MaxEv

end PrecondVerif.Compose
