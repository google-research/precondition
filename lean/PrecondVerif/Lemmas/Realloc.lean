/-
Lemmas for the reallocation model (C17).  One step of the proportional pass and of the leftover loop (`pass_cons`,
`leftover_cons`) carries every fact about them; one group is read off the closed form `groupRunGen_eq`, in which
the `assert rank ≤ dim` is gone because it cannot fire; `runGroups` is a `MapsE`, which lifts per-group facts to all
groups.  The arithmetic enters through two interfaces: `AllocSound` (the share computation; instance `allocRat_sound`)
and `AddMonotone` (the addition of scores; instance `addMonotone_of_orderedGroup`).
-/
import PrecondVerif.Model.Realloc
import PrecondVerif.Lemmas.Basic.ExceptKit
import Mathlib.Algebra.Order.BigOperators.Group.List
import Mathlib.Data.Rat.Floor

namespace PrecondVerif.Realloc

variable {κ : Type} {α : Type}

theorem insDesc_perm [LT α] [DecidableLT α] (x : κ × α) (l : List (κ × α)) :
    (insDesc x l).Perm (x :: l) := by
  induction l with
  | nil => simp [insDesc]
  | cons y ys ih =>
    simp only [insDesc]
    split
    · exact (List.Perm.cons y ih).trans (List.Perm.swap x y ys)
    · exact List.Perm.refl _

theorem sortDesc_perm [LT α] [DecidableLT α] (l : List (κ × α)) : (sortDesc l).Perm l := by
  induction l with
  | nil => simp [sortDesc]
  | cons x xs ih =>
    simp only [sortDesc]
    exact (insDesc_perm x (sortDesc xs)).trans (List.Perm.cons x ih)

theorem runningTotals_length [Sub α] (T : α) (l : List α) : (runningTotals T l).length = l.length := by
  induction l generalizing T with
  | nil => rfl
  | cons s ss ih => simp [runningTotals, ih]

/-- One step of the pass: the axis gets the rank `r`, the resource left is `R'`, and `r + R' = R + 1`. -/
theorem pass_cons (alloc : α → Int → α → Int) (d R : Int) (key : κ) (s T : α) (rest : List ((κ × α) × α)) :
    ∃ r R', pass alloc d R (((key, s), T) :: rest) = (key, r) :: pass alloc d R' rest ∧ r + R' = R + 1 ∧
      (r = d ∧ d - 1 < alloc s R T ∨ r = alloc s R T + 1 ∧ alloc s R T ≤ d - 1) := by
  simp only [pass]
  split
  · exact ⟨d, R - (d - 1), rfl, by omega, .inl ⟨rfl, by omega⟩⟩
  · exact ⟨_, R - alloc s R T, rfl, by omega, .inr ⟨rfl, by omega⟩⟩

theorem pass_keys (alloc : α → Int → α → Int) (d R : Int) (l : List ((κ × α) × α)) :
    (pass alloc d R l).map Prod.fst = l.map (fun x => x.1.1) := by
  induction l generalizing R with
  | nil => rfl
  | cons x rest ih =>
    obtain ⟨⟨key, s⟩, T⟩ := x
    obtain ⟨r, R', hp, _⟩ := pass_cons alloc d R key s T rest
    rw [hp, List.map_cons, ih, List.map_cons]

theorem pass_length (alloc : α → Int → α → Int) (d R : Int) (l : List ((κ × α) × α)) :
    (pass alloc d R l).length = l.length := by
  have := congrArg List.length (pass_keys alloc d R l)
  simpa using this

/-- Every rank the pass hands out is the dimension (an outlier) or a share `a ≤ d - 1` plus one. -/
theorem pass_forall (alloc : α → Int → α → Int) (d : Int) (P : Int → Prop) (hd : P d)
    (ha : ∀ s R T, alloc s R T ≤ d - 1 → P (alloc s R T + 1)) (R : Int) (l : List ((κ × α) × α)) :
    ∀ p ∈ pass alloc d R l, P p.2 := by
  induction l generalizing R with
  | nil => intro p hp; cases hp
  | cons x rest ih =>
    obtain ⟨⟨key, s⟩, T⟩ := x
    obtain ⟨r, R', hp, _, hr⟩ := pass_cons alloc d R key s T rest
    rw [hp]
    refine List.forall_mem_cons.mpr ⟨?_, ih R'⟩
    rcases hr with ⟨rfl, _⟩ | ⟨rfl, hle⟩
    · exact hd
    · exact ha s R T hle

/-- `assert realloc[key] <= dim` can never fire: every rank produced by the pass is at most `d`,
whatever the arithmetic. -/
theorem pass_le_dim (alloc : α → Int → α → Int) (d R : Int) (l : List ((κ × α) × α)) :
    ∀ p ∈ pass alloc d R l, p.2 ≤ d :=
  pass_forall alloc d (· ≤ d) (le_refl d) (fun _ _ _ h => by omega) R l

/-- Soundness of an allocation arithmetic: a non-negative score that is at most the total gets a
share between `0` and the available resource.  (Exact arithmetic satisfies it; so does any
monotone rounding of it as long as `R` is far below the mantissa range.) -/
def AllocSound [LE α] [OfNat α 0] (alloc : α → Int → α → Int) : Prop :=
  ∀ s R T, (0 : α) ≤ s → s ≤ T → 0 ≤ R → 0 ≤ alloc s R T ∧ alloc s R T ≤ R

theorem pass_sound [LE α] [OfNat α 0] (alloc : α → Int → α → Int) (hs : AllocSound alloc)
    (d : Int) (hd : 1 ≤ d) (R : Int) (hR : 0 ≤ R) (l : List ((κ × α) × α))
    (hl : ∀ x ∈ l, (0 : α) ≤ x.1.2 ∧ x.1.2 ≤ x.2) :
    (∀ p ∈ pass alloc d R l, 1 ≤ p.2) ∧
      ((pass alloc d R l).map Prod.snd).sum ≤ R + l.length := by
  induction l generalizing R with
  | nil => simp [pass, hR]
  | cons x rest ih =>
    obtain ⟨⟨key, s⟩, T⟩ := x
    have hx := hl ((key, s), T) List.mem_cons_self
    obtain ⟨ha0, haR⟩ := hs s R T hx.1 hx.2 hR
    obtain ⟨r, R', hp, hsum, hr⟩ := pass_cons alloc d R key s T rest
    obtain ⟨h1, h2⟩ := ih R' (by omega) fun x hx => hl x (List.mem_cons_of_mem _ hx)
    rw [hp]
    refine ⟨List.forall_mem_cons.mpr ⟨by omega, h1⟩, ?_⟩
    simp only [List.map_cons, List.sum_cons, List.length_cons]
    push_cast
    omega

theorem allocRat_sound : AllocSound allocRat := by
  intro s R T hs hsT hR
  unfold allocRat
  have hRq : (0 : ℚ) ≤ R := by exact_mod_cast hR
  split
  · rw [mul_zero, show Rat.floor 0 = 0 from rfl]
    exact ⟨le_rfl, hR⟩
  next hT =>
    have hTpos : 0 < T := lt_of_le_of_ne (hs.trans hsT) (Ne.symm hT)
    have hxR : s * (R / T) ≤ R :=
      calc s * (R / T) = R * (s / T) := by ring
        _ ≤ R * 1 := mul_le_mul_of_nonneg_left ((div_le_one hTpos).mpr hsT) hRq
        _ = R := mul_one _
    exact ⟨Rat.le_floor_iff.mpr (by exact_mod_cast mul_nonneg hs (div_nonneg hRq hTpos.le)),
      by exact_mod_cast (Rat.floor_le _).trans hxR⟩

/-- One step of the leftover loop: the rank becomes `min (r + 1) d`, the leftover `e` goes on (or the
loop breaks), and rank plus leftover does not grow. -/
theorem leftover_cons (d extra : Int) (key : κ) (r : Int) (rest : List (κ × Int)) :
    ∃ e, leftover d extra ((key, r) :: rest) =
        (key, min (r + 1) d) :: (if e ≤ 0 then rest else leftover d e rest) ∧
      min (r + 1) d + e ≤ r + extra := by
  refine ⟨if min (r + 1) d > r then extra - 1 else extra, ?_, ?_⟩
  · simp only [leftover]
    generalize (if min (r + 1) d > r then extra - 1 else extra) = e
    split <;> rfl
  · have := min_le_left (r + 1) d
    split <;> omega

theorem leftover_keys (d extra : Int) (l : List (κ × Int)) :
    (leftover d extra l).map Prod.fst = l.map Prod.fst := by
  induction l generalizing extra with
  | nil => rfl
  | cons x rest ih =>
    obtain ⟨key, r⟩ := x
    obtain ⟨e, hl, _⟩ := leftover_cons d extra key r rest
    rw [hl, List.map_cons, List.map_cons]
    split
    · rfl
    · rw [ih]

theorem leftover_forall (d : Int) (P : Int → Prop) (hP : ∀ r, P r → P (min (r + 1) d)) (extra : Int)
    (l : List (κ × Int)) (h : ∀ p ∈ l, P p.2) : ∀ p ∈ leftover d extra l, P p.2 := by
  induction l generalizing extra with
  | nil => exact h
  | cons x rest ih =>
    obtain ⟨key, r⟩ := x
    have hrest : ∀ p ∈ rest, P p.2 := fun p hp => h p (List.mem_cons_of_mem _ hp)
    obtain ⟨e, hl, _⟩ := leftover_cons d extra key r rest
    rw [hl]
    refine List.forall_mem_cons.mpr ⟨hP r (h (key, r) List.mem_cons_self), ?_⟩
    split
    · exact hrest
    · exact ih e hrest

theorem leftover_ge_one (d extra : Int) (hd : 1 ≤ d) (l : List (κ × Int)) (h : ∀ p ∈ l, 1 ≤ p.2) :
    ∀ p ∈ leftover d extra l, 1 ≤ p.2 :=
  leftover_forall d (1 ≤ ·) (fun _ hr => le_min (by omega) hd) extra l h

theorem leftover_sum_le (d extra : Int) (he : 1 ≤ extra) (l : List (κ × Int)) :
    ((leftover d extra l).map Prod.snd).sum ≤ (l.map Prod.snd).sum + extra := by
  induction l generalizing extra with
  | nil => simp [leftover]; omega
  | cons x rest ih =>
    obtain ⟨key, r⟩ := x
    have hmin : min (r + 1) d ≤ r + 1 := min_le_left _ _
    obtain ⟨e, hl, hke⟩ := leftover_cons d extra key r rest
    rw [hl]
    simp only [List.map_cons, List.sum_cons]
    split
    · omega
    · have := ih e (by omega)
      omega

section group
variable (lo : Int → Int → List (κ × Int) → List (κ × Int)) (totals : List α → List α → List α)
  [LT α] [DecidableLT α] (alloc : α → Int → α → Int) (k : Int) (d : Nat) (group : List (κ × α))

/-- The ranks after the proportional pass of one group (before the asserts and the leftover loop). -/
def groupRanks : List (κ × Int) :=
  pass alloc d ((group.length : Int) * k - group.length)
    ((sortDesc group).zip (totals (group.map Prod.snd) ((sortDesc group).map Prod.snd)))

/-- One group with the `assert rank ≤ dim`, which never fires, taken out.  The leftover loop `lo` and the totals
`totals` are parameters, so that the unrepaired loop and the running totals of the negative theorems are instances. -/
theorem groupRunGen_eq :
    groupRunGen lo totals alloc k d group =
      if (group.length : Int) * k < group.length then .error (.baseRank ((group.length : Int) * k) group.length)
      else if ((groupRanks totals alloc k d group).map Prod.snd).sum > (group.length : Int) * k then
        .error (.overBudget ((group.length : Int) * k) ((groupRanks totals alloc k d group).map Prod.snd).sum)
      else if ((groupRanks totals alloc k d group).map Prod.snd).sum < (group.length : Int) * k then
        .ok (lo d ((group.length : Int) * k - ((groupRanks totals alloc k d group).map Prod.snd).sum)
          (groupRanks totals alloc k d group))
      else .ok (groupRanks totals alloc k d group) := by
  have h : (groupRanks totals alloc k d group).find? (fun p => decide (p.2 > (d : Int))) = none :=
    List.find?_eq_none.mpr fun p hp => by simpa using pass_le_dim alloc d _ _ p hp
  unfold groupRanks at h ⊢
  unfold groupRunGen
  simp only [h]

/-- A successful run of one group: the pass stayed within budget, and the leftover loop ran on what
was left (`extra`) unless that was nothing. -/
theorem groupRunGen_ok (res : List (κ × Int)) (h : groupRunGen lo totals alloc k d group = .ok res) :
    ∃ extra, ((groupRanks totals alloc k d group).map Prod.snd).sum + extra = group.length * k ∧
      (extra = 0 ∧ res = groupRanks totals alloc k d group ∨
       1 ≤ extra ∧ res = lo d extra (groupRanks totals alloc k d group)) := by
  rw [groupRunGen_eq] at h
  by_cases h1 : (group.length : Int) * k < group.length
  · rw [if_pos h1] at h
    cases h
  · rw [if_neg h1] at h
    by_cases h2 : ((groupRanks totals alloc k d group).map Prod.snd).sum > group.length * k
    · rw [if_pos h2] at h
      cases h
    · rw [if_neg h2] at h
      refine ⟨_, add_sub_cancel _ _, ?_⟩
      split at h
      · exact .inr ⟨by omega, (Except.ok.inj h).symm⟩
      · exact .inl ⟨by omega, (Except.ok.inj h).symm⟩

end group

theorem zip_keys (l : List (κ × α)) (ts : List α) (h : ts.length = l.length) :
    (l.zip ts).map (fun x => x.1.1) = l.map Prod.fst :=
  (List.map_map (f := Prod.fst) (g := Prod.fst) (l := l.zip ts)).symm.trans
    (congrArg (List.map Prod.fst) (List.map_fst_zip (Nat.le_of_eq h.symm)))

theorem suffixTotals_length [Add α] [OfNat α 0] (l : List α) : (suffixTotals l).length = l.length := by
  induction l with
  | nil => rfl
  | cons s ss ih => simp [suffixTotals, ih]

theorem groupRun_budget [Add α] [OfNat α 0] [LT α] [DecidableLT α]
    (alloc : α → Int → α → Int) (k : Int) (d : Nat) (group : List (κ × α)) (res : List (κ × Int))
    (h : groupRun alloc k d group = .ok res) :
    (res.map Prod.fst).Perm (group.map Prod.fst) ∧ (∀ p ∈ res, p.2 ≤ (d : Int)) ∧
      (res.map Prod.snd).sum ≤ (group.length : Int) * k := by
  obtain ⟨extra, hsum, hres⟩ := groupRunGen_ok leftover codeTotals alloc k d group res h
  have hkeys : ((groupRanks codeTotals alloc k d group).map Prod.fst).Perm (group.map Prod.fst) := by
    unfold groupRanks
    rw [pass_keys, zip_keys _ _ (by simp [codeTotals, suffixTotals_length])]
    exact (sortDesc_perm group).map _
  have hle : ∀ p ∈ groupRanks codeTotals alloc k d group, p.2 ≤ (d : Int) := pass_le_dim alloc d _ _
  rcases hres with ⟨_, rfl⟩ | ⟨h1, rfl⟩
  · exact ⟨hkeys, hle, by omega⟩
  · refine ⟨?_, leftover_forall _ (· ≤ (d : Int)) (fun _ _ => min_le_right _ _) _ _ hle, ?_⟩
    · rw [leftover_keys]; exact hkeys
    · have := leftover_sum_le (d : Int) extra h1 (groupRanks codeTotals alloc k d group)
      omega

/-- for `if` chains: a value that no branch returns is not returned -/
theorem ite_ne {β : Sort _} {p : Prop} [Decidable p] {x y z : β} (hx : x ≠ z) (hy : y ≠ z) :
    (if p then x else y) ≠ z := by
  split <;> assumption

/-- The `assert realloc[key] <= dim` can never fire, whatever the arithmetic. -/
theorem groupRun_ne_rankExceedsDim [Add α] [OfNat α 0] [LT α] [DecidableLT α]
    (alloc : α → Int → α → Int) (k : Int) (d : Nat) (group : List (κ × α)) (r d' : Int) :
    groupRun alloc k d group ≠ .error (.rankExceedsDim r d') := by
  rw [groupRun, groupRunGen_eq]
  exact ite_ne (fun h => nomatch h) (ite_ne (fun h => nomatch h) (ite_ne (fun h => nomatch h) fun h => nomatch h))

theorem groupRun_ge_one_of_nonneg [Add α] [OfNat α 0] [LT α] [DecidableLT α]
    (alloc : α → Int → α → Int) (hnn : ∀ s R T, 0 ≤ alloc s R T)
    (k : Int) (d : Nat) (hd : 1 ≤ d) (group : List (κ × α)) (res : List (κ × Int))
    (h : groupRun alloc k d group = .ok res) : ∀ p ∈ res, 1 ≤ p.2 := by
  obtain ⟨_, _, hres⟩ := groupRunGen_ok leftover codeTotals alloc k d group res h
  have hd' : (1 : Int) ≤ (d : Int) := by exact_mod_cast hd
  have h1 : ∀ p ∈ groupRanks codeTotals alloc k d group, 1 ≤ p.2 :=
    pass_forall alloc d (1 ≤ ·) hd' (fun s R T _ => by have := hnn s R T; omega) _ _
  rcases hres with ⟨_, rfl⟩ | ⟨_, rfl⟩
  · exact h1
  · exact leftover_ge_one _ _ hd' _ h1

/-- What the lower bound needs from the addition of scores: adding a non-negative number to a
non-negative number gives something non-negative and not smaller than the second summand.  True in
every ordered additive group, and true of IEEE round-to-nearest addition (rounding is monotone). -/
def AddMonotone (α : Type) [LE α] [Add α] [OfNat α 0] : Prop :=
  (0 : α) ≤ 0 ∧ ∀ a b : α, 0 ≤ a → 0 ≤ b → b ≤ a + b ∧ 0 ≤ a + b

section monotone
variable [LE α] [Add α] [OfNat α 0]

theorem headD0_suffix_nonneg (hm : AddMonotone α) (l : List (κ × α)) (hnn : ∀ x ∈ l, (0 : α) ≤ x.2) :
    (0 : α) ≤ headD0 (suffixTotals (l.map Prod.snd)) := by
  induction l with
  | nil => exact hm.1
  | cons y ys ih =>
    have hss := ih fun x hx => hnn x (List.mem_cons_of_mem _ hx)
    simp only [List.map_cons, suffixTotals, headD0]
    exact (hm.2 _ _ hss (hnn y List.mem_cons_self)).2

theorem suffixTotals_dominate (hm : AddMonotone α) (l : List (κ × α)) (hnn : ∀ x ∈ l, (0 : α) ≤ x.2) :
    ∀ x ∈ l.zip (suffixTotals (l.map Prod.snd)), (0 : α) ≤ x.1.2 ∧ x.1.2 ≤ x.2 := by
  induction l with
  | nil => exact fun x hx => nomatch hx
  | cons y ys ih =>
    have hy : (0 : α) ≤ y.2 := hnn y List.mem_cons_self
    have hys : ∀ x ∈ ys, (0 : α) ≤ x.2 := fun x hx => hnn x (List.mem_cons_of_mem _ hx)
    simp only [List.map_cons, suffixTotals, List.zip_cons_cons]
    exact List.forall_mem_cons.mpr ⟨⟨hy, (hm.2 _ _ (headD0_suffix_nonneg hm ys hys) hy).1⟩, ih hys⟩

/-- With monotone addition, a sound share computation, non-negative scores, base rank ≥ 1 and
dimension ≥ 1: no assertion fires and every rank of the group is at least 1. -/
theorem groupRun_sound [LT α] [DecidableLT α] (hm : AddMonotone α)
    (alloc : α → Int → α → Int) (hs : AllocSound alloc)
    (k : Int) (hk : 1 ≤ k) (d : Nat) (hd : 1 ≤ d) (group : List (κ × α))
    (hnn : ∀ x ∈ group, (0 : α) ≤ x.2) :
    ∃ res, groupRun alloc k d group = .ok res ∧ ∀ p ∈ res, 1 ≤ p.2 := by
  have hd' : (1 : Int) ≤ (d : Int) := by exact_mod_cast hd
  have hn0 : (0 : Int) ≤ group.length := Int.natCast_nonneg _
  have hbud : (group.length : Int) ≤ group.length * k := le_mul_of_one_le_right hn0 hk
  have hdom := suffixTotals_dominate hm (sortDesc group)
    fun x hx => hnn x ((sortDesc_perm group).mem_iff.mp hx)
  obtain ⟨h1, h2⟩ := pass_sound alloc hs d hd' (group.length * k - group.length) (by omega) _ hdom
  rw [List.length_zip, suffixTotals_length, List.length_map, (sortDesc_perm group).length_eq, Nat.min_self] at h2
  have h1' : ∀ p ∈ groupRanks codeTotals alloc k d group, 1 ≤ p.2 := h1
  have h2' : ((groupRanks codeTotals alloc k d group).map Prod.snd).sum ≤ group.length * k := by
    have : ((groupRanks codeTotals alloc k d group).map Prod.snd).sum ≤
        (group.length : Int) * k - group.length + group.length := h2
    omega
  rw [groupRun, groupRunGen_eq, if_neg (by omega), if_neg (by omega)]
  split
  · exact ⟨_, rfl, leftover_ge_one _ _ hd' _ h1'⟩
  · exact ⟨_, rfl, h1'⟩

end monotone

theorem addMonotone_of_orderedGroup (α : Type) [AddCommGroup α] [PartialOrder α] [IsOrderedAddMonoid α] :
    AddMonotone α :=
  ⟨le_refl _, fun _ _ ha hb => ⟨le_add_of_nonneg_left ha, add_nonneg ha hb⟩⟩

theorem mem_dedupFirst (x : Nat) (l : List Nat) : x ∈ dedupFirst l ↔ x ∈ l := by
  induction l with
  | nil => simp [dedupFirst]
  | cons y ys ih =>
    simp only [dedupFirst, List.mem_cons, List.mem_filter, ih, bne_iff_ne, ne_eq]
    by_cases hxy : x = y <;> simp [hxy]

theorem mem_dims (axes : List (κ × Nat × α)) (d : Nat) : d ∈ dims axes ↔ ∃ a ∈ axes, a.2.1 = d := by
  rw [dims, mem_dedupFirst, List.mem_map]

theorem runGroups_mapsE {β : Type} (f : Nat → Except Err β) :
    MapsE (fun d => (f d).map fun r => (d, r)) (runGroups f) := by
  refine ⟨rfl, fun d ds => ?_⟩
  show runGroups f (d :: ds) = ((f d).map fun r => (d, r)) >>= fun x => runGroups f ds >>= fun xs => .ok (x :: xs)
  rw [runGroups]
  cases f d with
  | error e => rfl
  | ok r => cases runGroups f ds <;> rfl

theorem map_pair_ok {β : Type} {x : Except Err β} {d : Nat} {g : Nat × β}
    (h : (x.map fun r => (d, r)) = .ok g) : g.1 = d ∧ x = .ok g.2 := by
  cases x with
  | error e => cases h
  | ok r => cases h; exact ⟨rfl, rfl⟩

theorem runGroups_ok {β : Type} (f : Nat → Except Err β) (ds : List Nat) (out : List (Nat × β))
    (h : runGroups f ds = .ok out) :
    out.map Prod.fst = ds ∧ ∀ g ∈ out, f g.1 = .ok g.2 := by
  refine ⟨(runGroups_mapsE f).ok_map Prod.fst (fun _ _ hg => (map_pair_ok hg).1) h, fun g hg => ?_⟩
  obtain ⟨d, _, hd⟩ := (runGroups_mapsE f).ok_mem h g hg
  obtain ⟨rfl, hf⟩ := map_pair_ok hd
  exact hf

theorem runGroups_all_ok {β : Type} (f : Nat → Except Err β) (P : β → Prop) (ds : List Nat)
    (h : ∀ d ∈ ds, ∃ r, f d = .ok r ∧ P r) :
    ∃ out, runGroups f ds = .ok out ∧ ∀ g ∈ out, P g.2 :=
  (runGroups_mapsE f).all_ok (fun g => P g.2) fun d hd => by
    obtain ⟨r, hr, hP⟩ := h d hd
    exact ⟨(d, r), by rw [hr]; rfl, hP⟩

theorem runGroups_error {β : Type} (f : Nat → Except Err β) (ds : List Nat) (e : Err)
    (h : runGroups f ds = .error e) : ∃ d ∈ ds, f d = .error e := by
  obtain ⟨d, hd, hf⟩ := (runGroups_mapsE f).error h
  refine ⟨d, hd, ?_⟩
  cases hfd : f d with
  | error e' => rw [hfd] at hf; cases hf; rfl
  | ok r => rw [hfd] at hf; cases hf

theorem mem_groupOf_keys (axes : List (κ × Nat × α)) (a : κ × Nat × α) (ha : a ∈ axes) :
    a.1 ∈ (groupOf axes a.2.1).map Prod.fst := by
  unfold groupOf
  simp only [List.map_map, List.mem_map, List.mem_filter, Function.comp]
  exact ⟨a, ⟨ha, by simp⟩, rfl⟩

theorem groupOf_scores (axes : List (κ × Nat × α)) (d : Nat) (x : κ × α) (hx : x ∈ groupOf axes d) :
    ∃ a ∈ axes, a.2.1 = d ∧ a.2.2 = x.2 := by
  unfold groupOf at hx
  simp only [List.mem_map, List.mem_filter] at hx
  obtain ⟨a, ⟨ha, hd⟩, rfl⟩ := hx
  exact ⟨a, ha, by simpa using hd, rfl⟩

end PrecondVerif.Realloc
