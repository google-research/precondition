/-
Rounding-error analysis of the quantization model in rounded arithmetic (`quantizeFl`, `dequantizeFl` of
`Model/Quant.lean`) in an arbitrary linearly ordered field with a lawful floor.

The core lemmas (`fp_roundtrip_core`, `fp_nowrap_core`, `fp_maxhit_core`, `fp_requant_core`) are purely algebraic: they speak
about *any* computed bucket `bh`, computed ratio `rh` and computed product `y` that lie within relative errors
`ub`, `ur`, `um` of their exact counterparts.  `EntryOK` says that the values the model computes for one entry
are such; it holds when the rounding function `fl` has relative error at most `u` everywhere (`FlOK`), and when
it has it on zero and on magnitudes `≥ lo` (`FlOKAbove`) for a column whose guard `NormalCol` keeps every
rounded operation in that range.  The file ends with exact arithmetic (`quantEntry_err`, `quantEntry_abs_le`, `quantEntry_max`,
`quantEntry_dequant`, …): the same lemmas at `fl = id`, `u = 0`.
-/
import PrecondVerif.Lemmas.Quant

namespace PrecondVerif.Quant

section
variable {α : Type} [Field α]

/-- relative error of one computed division: `u` for a rounded division, `2u + u²` for
`fl (a * fl (1 / b))` -/
def opErr (recip : Bool) (u : α) : α := if recip then 2 * u + u ^ 2 else u

theorem opErr_false (u : α) : opErr false u = u := rfl

theorem opErr_true (u : α) : opErr true u = 2 * u + u ^ 2 := rfl

theorem divFl_false (fl : α → α) (a b : α) : divFl fl false a b = fl (a / b) := rfl

theorem divFl_true (fl : α → α) (a b : α) : divFl fl true a b = fl (a * fl (1 / b)) := rfl

theorem dequantEntryFl_zero {fl : α → α} (h0 : fl 0 = 0) (b : α) : dequantEntryFl fl b 0 = 0 := by
  unfold dequantEntryFl; simp [h0]

theorem dequantEntryFl_id (b : α) (q : Int) : dequantEntryFl id b q = dequantEntry b q := rfl

variable [LinearOrder α]

theorem bucketSizeFl_id (N : Nat) (col : List α) : bucketSizeFl id false N col = bucketSize N col := rfl

/-- `fl` commits a relative error of at most `u` when it rounds `t` -/
def FlOK (fl : α → α) (u t : α) : Prop := |fl t - t| ≤ u * |t|

/-- `fl` obeys the relative-error model on zero and on every magnitude `≥ lo` -/
def FlOKAbove (fl : α → α) (u lo : α) : Prop := ∀ t, (t = 0 ∨ lo ≤ |t|) → FlOK fl u t

theorem FlOKAbove.of_forall {fl : α → α} {u : α} (h : ∀ t, FlOK fl u t) : FlOKAbove fl u 0 := fun t _ => h t

/-- the roundings inside `divFl fl recip a b` obey the error model -/
def DivOK (fl : α → α) (u : α) : Bool → α → α → Prop
  | false, a, b => FlOK fl u (a / b)
  | true, a, b => FlOK fl u (1 / b) ∧ FlOK fl u (a * fl (1 / b))

theorem DivOK.of_forall {fl : α → α} {u : α} (hfl : ∀ t, FlOK fl u t) (recip : Bool) (a b : α) :
    DivOK fl u recip a b := by
  cases recip
  · exact hfl _
  · exact ⟨hfl _, hfl _⟩

/-- **Guard on a column**: it is identically zero, or every rounded operation of quantize / to_float stays
at magnitude `≥ lo`:  the exact bucket `b = max|col| / N` satisfies `2·lo ≤ b` and `2·b·lo ≤ 1`, `N·lo ≤ 1`,
and every non-zero entry is at least `4·lo·b`.  (float32, `lo = 2⁻¹²⁶`: `2⁻¹²⁵ ≤ b ≤ 2¹²⁵`, `N ≤ 2¹²⁶`,
non-zero entries `≥ 2⁻¹²⁴` buckets.)  Decidable at `ℚ`.  `2·lo ≤ b` keeps the bucket division `max|col| / N` and, since
the computed bucket `B ≥ b/2`, every product `q·B` with `q ≠ 0` at magnitude `≥ lo`; `N·lo ≤ 1` keeps `fl (1/N)` there,
`2·b·lo ≤ 1` keeps `fl (1/B)` there (`B ≤ 2b`), `4·lo·b ≤ |x|` the ratio `x/B` and its reciprocal form. -/
def NormalCol (lo : α) (N : Nat) (col : List α) : Prop :=
  maxAbs col = 0 ∨
    (2 * lo ≤ bucketSize N col ∧ 2 * bucketSize N col * lo ≤ 1 ∧ (N : α) * lo ≤ 1 ∧
      ∀ x ∈ col, x = 0 ∨ 4 * lo * bucketSize N col ≤ |x|)

instance (lo : α) (N : Nat) (col : List α) : Decidable (NormalCol lo N col) := by
  unfold NormalCol; infer_instance

end

section
variable {α : Type} [Field α] [LinearOrder α] [IsStrictOrderedRing α]

/-- the textbook form `fl t = t (1 + δ)`, `|δ| ≤ u` implies `FlOK` -/
theorem FlOK.of_delta {fl : α → α} {u t δ : α} (hδ : |δ| ≤ u) (h : fl t = t * (1 + δ)) : FlOK fl u t := by
  unfold FlOK
  rw [h, show t * (1 + δ) - t = δ * t by ring, abs_mul]
  exact mul_le_mul_of_nonneg_right hδ (abs_nonneg t)

/-- … and conversely -/
theorem FlOK.exists_delta {fl : α → α} {u t : α} (hu : 0 ≤ u) (h : FlOK fl u t) :
    ∃ δ, |δ| ≤ u ∧ fl t = t * (1 + δ) := by
  by_cases ht : t = 0
  · refine ⟨0, by simpa using hu, ?_⟩
    unfold FlOK at h
    rw [ht] at h ⊢
    simp only [abs_zero, mul_zero, sub_zero] at h
    have := abs_eq_zero.mp (le_antisymm h (abs_nonneg _))
    simp [this]
  · refine ⟨(fl t - t) / t, ?_, by field_simp; ring⟩
    rw [abs_div, div_le_iff₀ (abs_pos.mpr ht)]
    exact h

theorem FlOKAbove.zero {fl : α → α} {u lo : α} (h : FlOKAbove fl u lo) : fl 0 = 0 := by
  have := h 0 (Or.inl rfl)
  unfold FlOK at this
  simp only [abs_zero, mul_zero, sub_zero] at this
  exact abs_eq_zero.mp (le_antisymm this (abs_nonneg _))

theorem flOK_id (t : α) : FlOK id 0 t := by simp [FlOK]

theorem fl_zero {fl : α → α} {u : α} (hfl : ∀ t, FlOK fl u t) : fl 0 = 0 := (FlOKAbove.of_forall hfl).zero

section rel
variable {a b c ε ε₁ ε₂ : α}

theorem abs_le_of_rel (h : |b - a| ≤ ε * |a|) : |b| ≤ (1 + ε) * |a| := by
  have h' := abs_sub_abs_le_abs_sub b a
  linear_combination h + h'

theorem le_abs_of_rel (h : |b - a| ≤ ε * |a|) : (1 - ε) * |a| ≤ |b| := by
  have h' := abs_sub_abs_le_abs_sub a b
  rw [abs_sub_comm] at h'
  linear_combination h + h'

theorem rel_mul_right (hc : 0 ≤ c) (h : |b - a| ≤ ε * |a|) : |b * c - a * c| ≤ ε * |a * c| := by
  rw [← sub_mul, abs_mul, abs_mul, ← mul_assoc, abs_of_nonneg hc]
  exact mul_le_mul_of_nonneg_right h hc

/-- relative errors compose: `(1 + ε₁)(1 + ε₂) - 1` -/
theorem rel_trans (h₂ : 0 ≤ ε₂) (hcb : |c - b| ≤ ε₂ * |b|) (hba : |b - a| ≤ ε₁ * |a|) :
    |c - a| ≤ (ε₁ + ε₂ + ε₁ * ε₂) * |a| := by
  have h1 := abs_sub_le c b a
  have h2 := mul_le_mul_of_nonneg_left (abs_le_of_rel hba) h₂
  linear_combination h1 + h2 + hcb + hba

theorem rel_pos_bounds (hb : 0 < b) (hε : ε < 1) (h : |c - b| ≤ ε * b) :
    0 < c ∧ b * (1 - ε) ≤ c ∧ c ≤ b * (1 + ε) := by
  have h' := abs_le.mp h
  refine ⟨?_, by linear_combination h'.1, by linear_combination h'.2⟩
  have : 0 < b * (1 - ε) := mul_pos hb (by linear_combination hε)
  linear_combination this + h'.1

theorem abs_div_rel (hb : 0 < b) (hε : ε < 1) (h : |c - b| ≤ ε * b) (x : α) :
    |x / c| * (b * (1 - ε)) ≤ |x| ∧ |x| ≤ |x / c| * (b * (1 + ε)) := by
  obtain ⟨hc, h1, h2⟩ := rel_pos_bounds hb hε h
  have hx : |x / c| * c = |x| := by rw [abs_div, abs_of_pos hc, div_mul_cancel₀ _ hc.ne']
  rw [← hx]
  exact ⟨mul_le_mul_of_nonneg_left h1 (abs_nonneg _), mul_le_mul_of_nonneg_left h2 (abs_nonneg _)⟩

end rel

theorem opErr_nonneg {u : α} (hu : 0 ≤ u) (r : Bool) : 0 ≤ opErr r u := by
  cases r
  · rwa [opErr_false]
  · rw [opErr_true]
    positivity

theorem opErr_le {u : α} (hu : 0 ≤ u) (r : Bool) : opErr r u ≤ 2 * u + u ^ 2 := by
  cases r
  · rw [opErr_false]
    linear_combination hu + (sq_nonneg u)
  · exact le_rfl

theorem opErr_le_mul {u c : α} (hu : 0 ≤ u) (huc : u ≤ c) (r : Bool) : opErr r u ≤ (2 + c) * u := by
  have h1 := mul_le_mul_of_nonneg_right huc hu
  have h2 := opErr_le hu r
  linear_combination h1 + h2

/-- all the bounds below are linear in `N·u`; this is how `u` itself is bounded from a bound on `N·u` -/
theorem le_of_natCast_mul_le {N : Nat} {u c : α} (hN : 1 ≤ N) (hu : 0 ≤ u) (h : (N : α) * u ≤ c) : u ≤ c :=
  (le_mul_of_one_le_left hu (by exact_mod_cast hN)).trans h

theorem mul_recip_err {fl : α → α} {u b : α} (h : FlOK fl u (1 / b)) (a : α) :
    |a * fl (1 / b) - a / b| ≤ u * |a / b| := by
  rw [div_eq_mul_one_div a b, ← mul_sub, abs_mul, abs_mul, mul_left_comm]
  exact mul_le_mul_of_nonneg_left h (abs_nonneg a)

theorem divFl_err {fl : α → α} {u : α} (hu : 0 ≤ u) {recip : Bool} {a b : α} (h : DivOK fl u recip a b) :
    |divFl fl recip a b - a / b| ≤ opErr recip u * |a / b| := by
  cases recip
  · rw [divFl_false, opErr_false]
    exact h
  · obtain ⟨h1, h2⟩ := h
    have := rel_trans hu h2 (mul_recip_err h1 a)
    rw [divFl_true, opErr_true]
    linear_combination this

/-- the operands of a division keep its roundings at magnitude `≥ lo` -/
theorem FlOKAbove.divOK {fl : α → α} {u lo : α} (hfl : FlOKAbove fl u lo) (hu2 : u ≤ 1 / 2)
    (recip : Bool) {a b : α} (hab : a = 0 ∨ 2 * lo ≤ |a / b|) (hb : lo ≤ |1 / b|) : DivOK fl u recip a b := by
  cases recip
  · exact hfl _ (hab.imp (by rintro rfl; simp) (by intro h; linear_combination (1 / 2) * h + (1 / 2) * (abs_nonneg (a / b))))
  · have h1 : FlOK fl u (1 / b) := hfl _ (Or.inr hb)
    refine ⟨h1, hfl _ (hab.imp (by rintro rfl; simp) fun h => ?_)⟩
    have h4 := le_abs_of_rel (mul_recip_err h1 a)
    have h5 : (1 / 2) * |a / b| ≤ (1 - u) * |a / b| :=
      mul_le_mul_of_nonneg_right (by linear_combination hu2) (abs_nonneg _)
    linear_combination (1 / 2) * h + h4 + h5

/-! ### the algebraic core

`b > 0` is the exact bucket, `|x| ≤ N·b` an entry of its column, `bh`, `rh`, `q`, `y` the computed bucket, the computed
ratio `x / bh`, the stored integer and the computed product `q·bh`. -/

section core
variable {N : Nat} {b bh x rh y ub ur um : α} {q : Int}

/-- round trip: `|y - x| ≤ ((1+ub)(1+um)/2 + N (ur + um + ur um)) · b` -/
theorem fp_roundtrip_core (hb : 0 < b) (hx : |x| ≤ (N : α) * b) (hub1 : ub < 1) (hur : 0 ≤ ur) (hum : 0 ≤ um)
    (hbh : |bh - b| ≤ ub * b)
    (hrh : |rh - x / bh| ≤ ur * |x / bh|)
    (hq : |(q : α) - rh| ≤ 1 / 2)
    (hy : |y - (q : α) * bh| ≤ um * |(q : α) * bh|) :
    |y - x| ≤ ((1 + ub) * (1 + um) / 2 + (N : α) * (ur + um + ur * um)) * b := by
  obtain ⟨hbhp, _, hbhle⟩ := rel_pos_bounds hb hub1 hbh
  -- `rh·bh` is `x` up to `ur`, `q·bh` is `rh·bh` up to `bh/2`, `y` is `q·bh` up to `um`
  have h1 : |rh * bh - x| ≤ ur * |x| := by
    have := rel_mul_right hbhp.le hrh
    rwa [div_mul_cancel₀ _ hbhp.ne'] at this
  have h2 : |(q : α) * bh - rh * bh| ≤ 1 / 2 * bh := by
    rw [← sub_mul, abs_mul, abs_of_pos hbhp]
    exact mul_le_mul_of_nonneg_right hq hbhp.le
  have h3 := abs_sub_le ((q : α) * bh) (rh * bh) x
  have h4 := abs_sub_abs_le_abs_sub ((q : α) * bh) x
  have h5 := abs_sub_le y ((q : α) * bh) x
  have h6 : um * |(q : α) * bh| ≤ um * (|x| + (ur * |x| + 1 / 2 * bh)) :=
    mul_le_mul_of_nonneg_left (by linear_combination h1 + h2 + h3 + h4) hum
  have h7 : |x| * (ur + um + ur * um) ≤ (N : α) * b * (ur + um + ur * um) :=
    mul_le_mul_of_nonneg_right hx (by positivity)
  have h8 : bh * ((1 + um) / 2) ≤ b * (1 + ub) * ((1 + um) / 2) :=
    mul_le_mul_of_nonneg_right hbhle (by positivity)
  linear_combination h1 + h2 + h3 + h5 + hy + h6 + h7 + h8

theorem fp_ratio_lt (hb : 0 < b) (hx : |x| ≤ (N : α) * b) (hub1 : ub < 1) (hur : 0 ≤ ur)
    (hbh : |bh - b| ≤ ub * b)
    (hrh : |rh - x / bh| ≤ ur * |x / bh|)
    (hcond : (N : α) * (1 + ur) < ((N : α) + 1 / 2) * (1 - ub)) :
    |rh| < (N : α) + 1 / 2 := by
  have h1ub : 0 < 1 - ub := by linear_combination hub1
  have hA : |x / bh| * (1 - ub) ≤ (N : α) := by
    have := (abs_div_rel hb hub1 hbh x).1.trans hx
    rw [mul_left_comm, mul_comm (N : α)] at this
    exact le_of_mul_le_mul_left this hb
  have hB := mul_le_mul_of_nonneg_right (abs_le_of_rel hrh) h1ub.le
  have hC := mul_le_mul_of_nonneg_left hA (by linear_combination hur : 0 ≤ 1 + ur)
  have hD : |rh| * (1 - ub) < ((N : α) + 1 / 2) * (1 - ub) := by linear_combination hB + hC + hcond
  exact lt_of_mul_lt_mul_right hD h1ub.le

theorem fp_nowrap_core (hb : 0 < b) (hx : |x| ≤ (N : α) * b) (hub1 : ub < 1) (hur : 0 ≤ ur)
    (hbh : |bh - b| ≤ ub * b)
    (hrh : |rh - x / bh| ≤ ur * |x / bh|)
    (hq : |(q : α) - rh| ≤ 1 / 2)
    (hcond : (N : α) * (1 + ur) < ((N : α) + 1 / 2) * (1 - ub)) :
    |q| ≤ (N : Int) :=
  int_abs_le_of_near hq (fp_ratio_lt hb hx hub1 hur hbh hrh hcond)

theorem fp_maxhit_core (hN : 1 ≤ N) (hb : 0 < b) (hx : |x| = (N : α) * b) (hub0 : 0 ≤ ub) (hub1 : ub < 1) (hur : 0 ≤ ur)
    (hbh : |bh - b| ≤ ub * b)
    (hrh : |rh - x / bh| ≤ ur * |x / bh|)
    (hq : |(q : α) - rh| ≤ 1 / 2)
    (hcond : (N : α) * (1 + ur) < ((N : α) + 1 / 2) * (1 - ub)) :
    |q| = (N : Int) := by
  apply le_antisymm (fp_nowrap_core hb hx.le hub1 hur hbh hrh hq hcond)
  have h1ub : 0 < 1 + ub := by linear_combination hub0
  -- `N ≤ |x/bh| (1+ub)`, `(1-ur) |x/bh| ≤ |rh|`, hence `N - 1/2 < |rh|` and `N - 1 < |q|`
  have hA : (N : α) ≤ |x / bh| * (1 + ub) := by
    have := (abs_div_rel hb hub1 hbh x).2
    rw [hx, mul_left_comm, mul_comm (N : α)] at this
    exact le_of_mul_le_mul_left this hb
  have hN1 : (1 : α) ≤ (N : α) := by exact_mod_cast hN
  have hur1 : ur ≤ (N : α) * ur := le_mul_of_one_le_left hur hN1
  have hNub : 0 ≤ (N : α) * ub := by positivity
  have hB := mul_le_mul_of_nonneg_right (le_abs_of_rel hrh) h1ub.le
  have hC := mul_le_mul_of_nonneg_left hA (by linear_combination hur1 + hNub + hcond + (1 / 2) * hub0 : 0 ≤ 1 - ur)
  have hD : ((N : α) - 1 / 2) * (1 + ub) < |rh| * (1 + ub) := by linear_combination hB + hC + hcond + hub0
  have hE : (N : α) - 1 / 2 < |rh| := lt_of_mul_lt_mul_right hD h1ub.le
  have hF := abs_sub_abs_le_abs_sub rh (q : α)
  rw [abs_sub_comm] at hF
  have hG : (((N : Int) - 1 : Int) : α) < ((|q| : Int) : α) := by
    push_cast
    linear_combination hE + hF + hq
  have := Int.cast_lt.mp hG
  omega

/-- re-quantization: `y ≈ q·B` (error `u`), new bucket `B' ≈ B` (error `κ ≤ 4u`), new ratio `r' ≈ y / B'`
(error `e ≤ 3u`), `|q| ≤ N`, `N·u ≤ 1/32`  ⟹  `|r' - q| < 1/2` -/
theorem fp_requant_core {B B' r' u e κ : α} (hN : 1 ≤ N)
    (hu : 0 ≤ u) (hNu : (N : α) * u ≤ 1 / 32) (he : e ≤ 3 * u) (hκ : κ ≤ 4 * u)
    (hB : 0 < B) (hq : |q| ≤ (N : Int))
    (hy : |y - (q : α) * B| ≤ u * |(q : α) * B|)
    (hB' : |B' - B| ≤ κ * B)
    (hr : |r' - y / B'| ≤ e * |y / B'|) :
    |r' - (q : α)| < 1 / 2 := by
  have hu32 : u ≤ 1 / 32 := le_of_natCast_mul_le hN hu hNu
  have hκ8 : κ ≤ 1 / 8 := by linear_combination hκ + 4 * hu32
  have hκ1 : κ < 1 := by linear_combination hκ8
  have hqN : |(q : α)| ≤ (N : α) := by exact_mod_cast (Int.cast_le (R := α)).mpr hq
  obtain ⟨hB'pos, -, -⟩ := rel_pos_bounds hB hκ1 hB'
  -- `d = |y / B' - q|` satisfies `d·B(1-κ) ≤ |y - q B'| ≤ N B (u + κ)`, so `d ≤ 5/28`
  have hd := (abs_div_rel hB hκ1 hB' (y - (q : α) * B')).1
  rw [sub_div, mul_div_cancel_right₀ _ hB'pos.ne'] at hd
  have t1 := abs_sub_le y ((q : α) * B) ((q : α) * B')
  have t2 : |(q : α) * B - (q : α) * B'| ≤ (N : α) * (κ * B) := by
    rw [← mul_sub, abs_mul, abs_sub_comm]
    exact mul_le_mul hqN hB' (abs_nonneg _) (Nat.cast_nonneg N)
  have t3 : u * |(q : α) * B| ≤ u * ((N : α) * B) := by
    rw [abs_mul, abs_of_pos hB]
    exact mul_le_mul_of_nonneg_left (mul_le_mul_of_nonneg_right hqN hB.le) hu
  have t4 : (N : α) * u * B ≤ 1 / 32 * B := mul_le_mul_of_nonneg_right hNu hB.le
  have t5 : (N : α) * κ ≤ (N : α) * (4 * u) := mul_le_mul_of_nonneg_left hκ (Nat.cast_nonneg N)
  have t6 : |y / B' - (q : α)| * B * κ ≤ |y / B' - (q : α)| * B * (1 / 8) :=
    mul_le_mul_of_nonneg_left hκ8 (mul_nonneg (abs_nonneg _) hB.le)
  have hd4 : |y / B' - (q : α)| ≤ 5 / 28 := by
    have t7 := mul_le_mul_of_nonneg_right t5 hB.le
    have : |y / B' - (q : α)| * B ≤ 5 / 28 * B := by linear_combination (8 / 7) * hd + (8 / 7) * t1 + (8 / 7) * t2 + (8 / 7) * t3 + (40 / 7) * t4 + (8 / 7) * t6 + (8 / 7) * t7 + (8 / 7) * hy
    exact le_of_mul_le_mul_right this hB
  have hyB := abs_sub_abs_le_abs_sub (y / B') (q : α)
  have tri := abs_sub_le r' (y / B') (q : α)
  have hr2 : e * |y / B'| ≤ 3 * u * ((N : α) + 5 / 28) :=
    mul_le_mul he (by linear_combination hyB + hqN + hd4) (abs_nonneg _) (by linear_combination 3 * hu)
  linear_combination tri + hr + hr2 + hd4 + 3 * hNu + (15 / 28) * hu32

end core

/-- the bound of `fp_roundtrip_core` with `ub`, `ur ≤ 2u + u²`, `um = u` is at most `1/2 + (3N+2)u` when `N·u ≤ 1/16` -/
theorem roundtrip_const_le {N : Nat} {u : α} (hN : 1 ≤ N) (hu : 0 ≤ u) (hNu : (N : α) * u ≤ 1 / 16) (rb rr : Bool) :
    (1 + opErr rb u) * (1 + u) / 2 + (N : α) * (opErr rr u + u + opErr rr u * u)
      ≤ 1 / 2 + (3 * (N : α) + 2) * u := by
  have hu16 : u ≤ 1 / 16 := le_of_natCast_mul_le hN hu hNu
  have hb := opErr_le hu rb
  have hr := opErr_le hu rr
  have huu : u ^ 2 ≤ 1 / 16 * u := by rw [sq]; exact mul_le_mul_of_nonneg_right hu16 hu
  -- every monomial in `opErr` is bounded through `e ≤ 2u + u²`; those of degree `≥ 2` in `u` by multiples of `u`
  have s1 : opErr rb u * u ≤ (2 * u + u ^ 2) * u := mul_le_mul_of_nonneg_right hb hu
  have s2 : (N : α) * opErr rr u ≤ (N : α) * (2 * u + u ^ 2) := mul_le_mul_of_nonneg_left hr (Nat.cast_nonneg N)
  have s3 : (N : α) * opErr rr u * u ≤ (N : α) * (2 * u + u ^ 2) * u := mul_le_mul_of_nonneg_right s2 hu
  have s4 : (N : α) * u * u ≤ 1 / 16 * u := mul_le_mul_of_nonneg_right hNu hu
  have s5 : (N : α) * u * u * u ≤ 1 / 16 * u * u := mul_le_mul_of_nonneg_right s4 hu
  have s6 : u ^ 2 * u ≤ 1 / 16 * u * u := mul_le_mul_of_nonneg_right huu hu
  have s7 : 1 / 16 * u * u ≤ 1 / 16 * (1 / 16 * u) := by
    rw [mul_assoc, ← sq]
    exact mul_le_mul_of_nonneg_left huu (by norm_num)
  linear_combination (1 / 2) * hb + (1 / 2) * s1 + s2 + s3 + 3 * s4 + s5 + (1 / 2) * s6 + (51 / 2) * s7 + (109 / 512) * hu

theorem opErr_lt_one {N : Nat} {u : α} (hN : 1 ≤ N) (hu : 0 ≤ u) (hNu : (N : α) * u ≤ 1 / 16) (r : Bool) :
    opErr r u < 1 := by
  have hu16 : u ≤ 1 / 16 := le_of_natCast_mul_le hN hu hNu
  linear_combination (opErr_le_mul hu hu16 r) + (33 / 16) * hu16

/-- the no-wrap condition of `fp_nowrap_core` holds when `N·u ≤ 1/16` -/
theorem nowrap_cond {N : Nat} {u : α} (hN : 1 ≤ N) (hu : 0 ≤ u) (hNu : (N : α) * u ≤ 1 / 16) (rb rr : Bool) :
    (N : α) * (1 + opErr rr u) < ((N : α) + 1 / 2) * (1 - opErr rb u) := by
  have hu16 : u ≤ 1 / 16 := le_of_natCast_mul_le hN hu hNu
  have hb := opErr_le_mul hu hu16 rb
  have e1 := mul_le_mul_of_nonneg_left (opErr_le_mul hu hu16 rr) (Nat.cast_nonneg (α := α) N)
  have e2 := mul_le_mul_of_nonneg_left hb (Nat.cast_nonneg (α := α) N)
  linear_combination (1 / 2) * hb + e1 + e2 + (33 / 8) * hNu + (33 / 32) * hu16

/-- with `lo = 0` the guard says nothing -/
theorem NormalCol.zero (N : Nat) (col : List α) : NormalCol (0 : α) N col :=
  Or.inr ⟨by simpa using bucketSize_nonneg N col, by simp, by simp, fun x _ => Or.inr (by simp)⟩

theorem bucketSizeFl_err {fl : α → α} {u : α} (N : Nat) (col : List α) (hu : 0 ≤ u) {rb : Bool}
    (h : DivOK fl u rb (maxAbs col) (N : α)) :
    |bucketSizeFl fl rb N col - bucketSize N col| ≤ opErr rb u * bucketSize N col := by
  have := divFl_err hu h
  rwa [← bucketSize, abs_of_nonneg (bucketSize_nonneg N col)] at this

end

section
variable {α : Type} [Field α] [LinearOrder α] [HasFloor α]

@[simp] theorem quantizeFl_bucket (fl : α → α) (rb rr : Bool) (N rows cols : Nat) (ed : Bool)
    (x : Nat → Nat → α) (c : Nat) :
    (quantizeFl fl rb rr N rows cols ed x).bucket c = bucketSizeFl fl rb N (column rows (pre ed x) c) := by
  simp only [quantizeFl, lookup_table]

@[simp] theorem quantizeFl_q (fl : α → α) (rb rr : Bool) (N rows cols : Nat) (ed : Bool)
    (x : Nat → Nat → α) (i c : Nat) :
    (quantizeFl fl rb rr N rows cols ed x).q i c
      = quantEntryFl fl rr (bucketSizeFl fl rb N (column rows (pre ed x) c)) (pre ed x i c) := by
  simp only [quantizeFl, lookup_table]

@[simp] theorem quantizeFl_diag (fl : α → α) (rb rr : Bool) (N rows cols : Nat) (ed : Bool)
    (x : Nat → Nat → α) (i : Nat) :
    (quantizeFl fl rb rr N rows cols ed x).diag i = if ed then x i i else 0 := by
  simp only [quantizeFl]

/-- the divisor `bucketNZ b` is `b` itself for a positive bucket -/
theorem quantEntryFl_of_pos {fl : α → α} (rr : Bool) {b : α} (hb : 0 < b) (x : α) :
    quantEntryFl fl rr b x = roundHalfEven (divFl fl rr x b) := by
  rw [quantEntryFl, bucketNZ, if_pos hb]

theorem quantEntryFl_id (b x : α) : quantEntryFl id false b x = quantEntry b x := rfl

/-- the roundings behind the stored integer and the dequantized value of the entry `x` of `col` obey the error model:
those of the bucket division, of the ratio division and of the product -/
structure EntryOK (fl : α → α) (u : α) (rb rr : Bool) (N : Nat) (col : List α) (x : α) : Prop where
  bucket : DivOK fl u rb (maxAbs col) (N : α)
  ratio : DivOK fl u rr x (bucketSizeFl fl rb N col)
  prod : FlOK fl u
    ((quantEntryFl fl rr (bucketSizeFl fl rb N col) x : Int) * bucketSizeFl fl rb N col)

theorem EntryOK.of_forall {fl : α → α} {u : α} (hfl : ∀ t, FlOK fl u t) (rb rr : Bool) (N : Nat) (col : List α)
    (x : α) : EntryOK fl u rb rr N col x :=
  ⟨.of_forall hfl .., .of_forall hfl .., hfl _⟩

variable [IsStrictOrderedRing α] [LawfulFloor α]

theorem quantEntryFl_zero {fl : α → α} (h0 : fl 0 = 0) (rr : Bool) (b : α) : quantEntryFl fl rr b (0 : α) = 0 := by
  unfold quantEntryFl divFl
  cases rr <;> simp [h0, round_zero]

section columnFl
variable {N : Nat} (hN : 1 ≤ N) (col : List α) {fl : α → α} {u lo : α}
include hN

/-- the hypotheses of the core lemmas hold for what the model computes for an entry of a non-zero column -/
theorem EntryOK.core_hyps {rb rr : Bool} {x : α} (h : EntryOK fl u rb rr N col x) (hu : 0 ≤ u) (hub1 : opErr rb u < 1)
    (hm : 0 < maxAbs col) :
    let B := bucketSizeFl fl rb N col
    let rh := divFl fl rr x B
    let q := quantEntryFl fl rr B x
    |B - bucketSize N col| ≤ opErr rb u * bucketSize N col ∧
    |rh - x / B| ≤ opErr rr u * |x / B| ∧
    |(q : α) - rh| ≤ 1 / 2 ∧
    |dequantEntryFl fl B q - (q : α) * B| ≤ u * |(q : α) * B| := by
  intro B rh q
  have hB := bucketSizeFl_err N col hu h.bucket
  have hBpos : 0 < B := (rel_pos_bounds ((bucketSize_pos_iff hN col).mpr hm) hub1 hB).1
  refine ⟨hB, divFl_err hu h.ratio, ?_, h.prod⟩
  rw [show q = roundHalfEven rh from quantEntryFl_of_pos rr hBpos x]
  exact round_err rh

omit [LawfulFloor α] in
/-- under the guard every rounding behind an entry happens at zero or at magnitude `≥ lo` -/
theorem NormalCol.entryOK (hg : NormalCol lo N col) (hu : 0 ≤ u) (hu16 : u ≤ 1 / 16) (hlo : 0 ≤ lo)
    (hfl : FlOKAbove fl u lo) (rb rr : Bool) (hm : 0 < maxAbs col) {x : α} (hx : x ∈ col) :
    EntryOK fl u rb rr N col x := by
  obtain h0 | ⟨hb_lo, hb_hi, hN_lo, hent⟩ := hg
  · exact absurd h0 hm.ne'
  have hNp : (0 : α) < (N : α) := Nat.cast_pos.mpr hN
  have hbpos : 0 < bucketSize N col := (bucketSize_pos_iff hN col).mpr hm
  have hu2 : u ≤ 1 / 2 := by linear_combination hu16
  have hbucket : DivOK fl u rb (maxAbs col) (N : α) := by
    refine hfl.divOK hu2 rb (Or.inr ?_) ?_
    · rw [← bucketSize, abs_of_pos hbpos]
      exact hb_lo
    · rw [abs_of_pos (by positivity), le_div_iff₀ hNp, mul_comm]
      exact hN_lo
  -- the computed bucket `B` lies in `[b/2, 2b]`
  have he1 : opErr rb u ≤ 1 / 4 := (opErr_le_mul hu hu16 rb).trans (by linear_combination (33 / 16) * hu16)
  obtain ⟨hBpos, hBge, hBle⟩ :=
    rel_pos_bounds hbpos (by linear_combination he1) (bucketSizeFl_err N col hu hbucket)
  have he2 := mul_le_mul_of_nonneg_left he1 hbpos.le
  have hBge2 : bucketSize N col / 2 ≤ bucketSizeFl fl rb N col := by linear_combination he2 + hBge + (1 / 4) * hbpos
  have hBle2 : bucketSizeFl fl rb N col ≤ 2 * bucketSize N col := by linear_combination he2 + hBle + (3 / 4) * hbpos
  have hBlo : bucketSizeFl fl rb N col * lo ≤ 1 := (mul_le_mul_of_nonneg_right hBle2 hlo).trans hb_hi
  refine ⟨hbucket, hfl.divOK hu2 rr ((hent x hx).imp id fun h => ?_) ?_, hfl _ ?_⟩
  · rw [abs_div, abs_of_pos hBpos, le_div_iff₀ hBpos]
    have := mul_le_mul_of_nonneg_left hBle2 (by linear_combination 2 * hlo : 0 ≤ 2 * lo)
    linear_combination this + h
  · rw [abs_of_pos (by positivity), le_div_iff₀ hBpos, mul_comm]
    exact hBlo
  · by_cases hq : quantEntryFl fl rr (bucketSizeFl fl rb N col) x = 0
    · left; rw [hq]; simp
    · right
      rw [abs_mul, abs_of_pos hBpos]
      have h1 : (1 : α) ≤ |((quantEntryFl fl rr (bucketSizeFl fl rb N col) x : Int) : α)| := by
        exact_mod_cast (Int.cast_le (R := α)).mpr (Int.one_le_abs hq)
      have := mul_le_mul_of_nonneg_right h1 hBpos.le
      linear_combination this + hBge2 + (1 / 2) * hb_lo

theorem quantEntryFl_err {rb rr : Bool} {x : α} (hu : 0 ≤ u) (h0 : fl 0 = 0) (hub1 : opErr rb u < 1) (hx : x ∈ col)
    (hok : 0 < maxAbs col → EntryOK fl u rb rr N col x) :
    |dequantEntryFl fl (bucketSizeFl fl rb N col) (quantEntryFl fl rr (bucketSizeFl fl rb N col) x) - x|
      ≤ ((1 + opErr rb u) * (1 + u) / 2 + (N : α) * (opErr rr u + u + opErr rr u * u))
          * bucketSize N col := by
  by_cases hm : 0 < maxAbs col
  · obtain ⟨h1, h2, h3, h4⟩ := (hok hm).core_hyps hN col hu hub1 hm
    exact fp_roundtrip_core ((bucketSize_pos_iff hN col).mpr hm) (abs_le_mul_bucketSize hN col hx) hub1 (opErr_nonneg hu rr)
      hu h1 h2 h3 h4
  · rw [eq_zero_of_maxAbs hx hm, quantEntryFl_zero h0, dequantEntryFl_zero h0, sub_zero, abs_zero]
    have := opErr_nonneg hu rb
    have := opErr_nonneg hu rr
    have := bucketSize_nonneg N col
    positivity

theorem quantEntryFl_abs_le {rb rr : Bool} {x : α} (hu : 0 ≤ u) (h0 : fl 0 = 0) (hub1 : opErr rb u < 1)
    (hcond : (N : α) * (1 + opErr rr u) < ((N : α) + 1 / 2) * (1 - opErr rb u)) (hx : x ∈ col)
    (hok : 0 < maxAbs col → EntryOK fl u rb rr N col x) :
    |quantEntryFl fl rr (bucketSizeFl fl rb N col) x| ≤ (N : Int) := by
  by_cases hm : 0 < maxAbs col
  · obtain ⟨h1, h2, h3, -⟩ := (hok hm).core_hyps hN col hu hub1 hm
    exact fp_nowrap_core ((bucketSize_pos_iff hN col).mpr hm) (abs_le_mul_bucketSize hN col hx) hub1
      (opErr_nonneg hu rr) h1 h2 h3 hcond
  · rw [eq_zero_of_maxAbs hx hm, quantEntryFl_zero h0]
    simp

theorem quantEntryFl_max {rb rr : Bool} {x : α} (hu : 0 ≤ u) (hub1 : opErr rb u < 1)
    (hcond : (N : α) * (1 + opErr rr u) < ((N : α) + 1 / 2) * (1 - opErr rb u)) (hm : 0 < maxAbs col)
    (hmax : |x| = maxAbs col) (hok : EntryOK fl u rb rr N col x) :
    |quantEntryFl fl rr (bucketSizeFl fl rb N col) x| = (N : Int) := by
  obtain ⟨h1, h2, h3, -⟩ := hok.core_hyps hN col hu hub1 hm
  exact fp_maxhit_core hN ((bucketSize_pos_iff hN col).mpr hm) (hmax.trans (mul_bucketSize hN col).symm)
    (opErr_nonneg hu rb) hub1 (opErr_nonneg hu rr) h1 h2 h3 hcond

/-- the exact bucket of the dequantized column is the computed bucket `B` up to `u` -/
theorem bucketSize_dequantFl (hu : 0 ≤ u) (hNu : (N : α) * u ≤ 1 / 16) (hfl : ∀ t, FlOK fl u t) (rb rr : Bool) :
    let B := bucketSizeFl fl rb N col
    let col' := col.map fun z => dequantEntryFl fl B (quantEntryFl fl rr B z)
    bucketSize N col' ≤ B * (1 + u) ∧ (0 < maxAbs col → B * (1 - u) ≤ bucketSize N col') := by
  intro B col'
  have hNp : (0 : α) < (N : α) := Nat.cast_pos.mpr hN
  have hub1 := opErr_lt_one hN hu hNu rb
  have hcond := nowrap_cond (α := α) hN hu hNu rb rr
  have hB0 : 0 ≤ B := by
    have h1 := abs_le.mp (bucketSizeFl_err N col hu (.of_forall hfl rb ..))
    have h2 := mul_le_mul_of_nonneg_right hub1.le (bucketSize_nonneg N col)
    linear_combination h1.1 + h2
  -- every entry of `col'` is `q·B` up to `u` with `|q| ≤ N`, and `|q| = N` for an entry of largest magnitude
  have hy : ∀ z, |dequantEntryFl fl B (quantEntryFl fl rr B z) - ((quantEntryFl fl rr B z : Int) : α) * B|
      ≤ u * |((quantEntryFl fl rr B z : Int) : α) * B| := fun z => hfl _
  constructor
  · refine (div_le_iff₀' hNp).mpr (maxAbs_le (by positivity) fun w hw => ?_)
    obtain ⟨z, hz, rfl⟩ := List.mem_map.mp hw
    have hq : |((quantEntryFl fl rr B z : Int) : α)| ≤ (N : α) := by
      exact_mod_cast (Int.cast_le (R := α)).mpr
        (quantEntryFl_abs_le hN col hu (fl_zero hfl) hub1 hcond hz fun _ => .of_forall hfl ..)
    have h1 := abs_le_of_rel (hy z)
    rw [abs_mul, abs_of_nonneg hB0] at h1
    have h2 := mul_le_mul_of_nonneg_left (mul_le_mul_of_nonneg_right hq hB0) (by linear_combination hu : 0 ≤ 1 + u)
    linear_combination h1 + h2
  · intro hm
    obtain ⟨z, hz, hzm⟩ := (maxAbs_attained col).resolve_left hm.ne'
    have hq : |((quantEntryFl fl rr B z : Int) : α)| = (N : α) := by
      exact_mod_cast congrArg (Int.cast (R := α))
        (quantEntryFl_max hN col hu hub1 hcond hm hzm (.of_forall hfl ..))
    have h1 := le_abs_of_rel (hy z)
    rw [abs_mul, abs_of_nonneg hB0, hq] at h1
    exact (le_div_iff₀' hNp).mpr (le_trans (by linear_combination h1) (le_maxAbs (List.mem_map.mpr ⟨z, hz, rfl⟩)))

/-- Re-quantizing the dequantized column (any division variants `rb'`, `rr'` the second time) returns the
same integer for every entry. -/
theorem quantEntryFl_requant (hu : 0 ≤ u) (hNu : (N : α) * u ≤ 1 / 32) (hfl : ∀ t, FlOK fl u t)
    (rb rr rb' rr' : Bool) {x : α} (hx : x ∈ col) :
    let B := bucketSizeFl fl rb N col
    let col' := col.map fun z => dequantEntryFl fl B (quantEntryFl fl rr B z)
    quantEntryFl fl rr' (bucketSizeFl fl rb' N col') (dequantEntryFl fl B (quantEntryFl fl rr B x))
      = quantEntryFl fl rr B x := by
  intro B col'
  have h0 := fl_zero hfl
  by_cases hm : 0 < maxAbs col
  swap
  · rw [eq_zero_of_maxAbs hx hm, quantEntryFl_zero h0, dequantEntryFl_zero h0, quantEntryFl_zero h0]
  have hNu16 : (N : α) * u ≤ 1 / 16 := by linear_combination hNu
  have hu32 : u ≤ 1 / 32 := le_of_natCast_mul_le hN hu hNu
  have hE : ∀ r : Bool, opErr r u ≤ 3 * u := fun r => (opErr_le_mul hu hu32 r).trans (by linear_combination (31 / 32) * hu)
  have hub1 := opErr_lt_one hN hu hNu16 rb
  have hBpos : 0 < B :=
    (rel_pos_bounds ((bucketSize_pos_iff hN col).mpr hm) hub1 (bucketSizeFl_err N col hu (.of_forall hfl rb ..))).1
  -- the new exact bucket `b' = max|col'| / N` is `B` up to `u`, the new computed bucket `B'` is `b'` up to `e'`
  obtain ⟨hb'up, hb'lo⟩ := bucketSize_dequantFl hN col hu hNu16 hfl rb rr
  have hb' : |bucketSize N col' - B| ≤ u * |B| := by
    rw [abs_of_pos hBpos, abs_le]
    exact ⟨by linear_combination hb'lo hm, by linear_combination hb'up⟩
  have hm' : 0 < maxAbs col' :=
    (bucketSize_pos_iff hN col').mp (lt_of_lt_of_le (mul_pos hBpos (by linear_combination hu32)) (hb'lo hm))
  have hub1' := opErr_lt_one hN hu hNu16 rb'
  have hB'e : |bucketSizeFl fl rb' N col' - bucketSize N col'| ≤ opErr rb' u * |bucketSize N col'| :=
    divFl_err hu (.of_forall hfl rb' ..)
  have hκ := rel_trans (opErr_nonneg hu rb') hB'e hb'
  rw [abs_of_pos hBpos] at hκ
  have hB'pos : 0 < bucketSizeFl fl rb' N col' :=
    (rel_pos_bounds ((bucketSize_pos_iff hN col').mpr hm') hub1' (bucketSizeFl_err N col' hu (.of_forall hfl rb' ..))).1
  have hκ4 : u + opErr rb' u + u * opErr rb' u ≤ 4 * u := by
    have h1 := mul_le_mul_of_nonneg_left (hE rb') hu
    have h2 := mul_le_mul_of_nonneg_left hu32 hu
    linear_combination h1 + 3 * h2 + (opErr_le_mul hu hu32 rb') + (7 / 8) * hu
  rw [quantEntryFl_of_pos rr' hB'pos]
  refine int_eq_of_near (round_err _) (fp_requant_core hN hu hNu (hE rr') hκ4 hBpos ?_ (hfl _) hκ
    (divFl_err hu (.of_forall hfl rr' ..)))
  exact quantEntryFl_abs_le hN col hu h0 hub1 (nowrap_cond hN hu hNu16 rb rr) hx fun _ => .of_forall hfl ..

end columnFl

/-- entrywise: the round-trip difference is the difference on the bucketed (off-diagonal) part -/
theorem dequantizeFl_sub {fl : α → α} (h0 : fl 0 = 0) (rb rr : Bool)
    (N rows cols : Nat) (ed : Bool) (x : Nat → Nat → α) (i c : Nat) :
    dequantizeFl fl ed (quantizeFl fl rb rr N rows cols ed x) i c - x i c
      = dequantEntryFl fl (bucketSizeFl fl rb N (column rows (pre ed x) c))
          (quantEntryFl fl rr (bucketSizeFl fl rb N (column rows (pre ed x) c)) (pre ed x i c))
        - pre ed x i c := by
  conv_lhs => rw [pre_add ed x i c]
  cases ed
  · simp [dequantizeFl]
  · by_cases hic : i = c
    · subst hic
      simp [dequantizeFl, pre_diag, quantEntryFl_zero h0, dequantEntryFl_zero h0]
    · simp [dequantizeFl, hic]

theorem dequantizeFl_zero {fl : α → α} (h0 : fl 0 = 0) (rb rr : Bool) (N rows cols : Nat) (ed : Bool)
    {x : Nat → Nat → α} {i c : Nat} (hx : x i c = 0) :
    dequantizeFl fl ed (quantizeFl fl rb rr N rows cols ed x) i c = 0 := by
  have h := dequantizeFl_sub h0 rb rr N rows cols ed x i c
  rw [pre_eq_zero ed hx, quantEntryFl_zero h0, dequantEntryFl_zero h0, hx] at h
  simpa using h

theorem dequantizeFl_diag {fl : α → α} (h0 : fl 0 = 0) (rb rr : Bool) (N rows cols : Nat)
    (x : Nat → Nat → α) (i : Nat) :
    dequantizeFl fl true (quantizeFl fl rb rr N rows cols true x) i i = x i i := by
  have h := dequantizeFl_sub h0 rb rr N rows cols true x i i
  rw [pre_diag, quantEntryFl_zero h0, dequantEntryFl_zero h0] at h
  exact sub_eq_zero.mp (by simpa using h)

theorem pre_dequantizeFl {fl : α → α} (h0 : fl 0 = 0) (rb rr : Bool) (N rows cols : Nat) (ed : Bool)
    (x : Nat → Nat → α) (i c : Nat) :
    pre ed (dequantizeFl fl ed (quantizeFl fl rb rr N rows cols ed x)) i c
      = dequantEntryFl fl (bucketSizeFl fl rb N (column rows (pre ed x) c))
          (quantEntryFl fl rr (bucketSizeFl fl rb N (column rows (pre ed x) c)) (pre ed x i c)) := by
  cases ed
  · simp [pre, dequantizeFl]
  · by_cases h : i = c
    · subst h
      simp [pre, dequantizeFl, offDiag, quantEntryFl_zero h0, dequantEntryFl_zero h0]
    · simp [pre, dequantizeFl, offDiag, h]

theorem column_pre_dequantizeFl {fl : α → α} (h0 : fl 0 = 0) (rb rr : Bool) (N rows cols : Nat) (ed : Bool)
    (x : Nat → Nat → α) (c : Nat) :
    column rows (pre ed (dequantizeFl fl ed (quantizeFl fl rb rr N rows cols ed x))) c
      = (column rows (pre ed x) c).map fun y =>
          dequantEntryFl fl (bucketSizeFl fl rb N (column rows (pre ed x) c))
            (quantEntryFl fl rr (bucketSizeFl fl rb N (column rows (pre ed x) c)) y) := by
  unfold column
  rw [List.map_map]
  exact List.map_congr_left fun i _ => pre_dequantizeFl h0 rb rr N rows cols ed x i c

/-! ### exact arithmetic

is rounded arithmetic with the identity as rounding function, plain divisions and `u = 0`: `quantize N rows cols ed x` is
`quantizeFl id false false N rows cols ed x`, `dequantize` is `dequantizeFl id`, `bucketSize N` is `bucketSizeFl id false N`, all
by `rfl`. The entry-level lemmas rewrite with the `_id` equations; the tensor-level ones are the `Fl` lemmas as terms at
`(fl := id)`, which the elaborator accepts by unfolding both sides. -/

section column
variable {N : Nat} (hN : 1 ≤ N) (col : List α)
include hN

theorem quantEntry_err {x : α} (hx : x ∈ col) :
    |dequantEntry (bucketSize N col) (quantEntry (bucketSize N col) x) - x| ≤ bucketSize N col / 2 := by
  have h := quantEntryFl_err (fl := id) (u := 0) (rb := false) (rr := false) hN col le_rfl rfl
    (by rw [opErr_false]; exact zero_lt_one) hx fun _ => .of_forall flOK_id ..
  -- at `u = 0` the constant of the rounded bound is `1/2`
  have hc : (1 + opErr false (0 : α)) * (1 + 0) / 2 + (N : α) * (opErr false 0 + 0 + opErr false 0 * 0) = 1 / 2 := by
    rw [opErr_false]
    ring
  rwa [hc, bucketSizeFl_id, quantEntryFl_id, dequantEntryFl_id, one_div_mul_eq_div] at h

theorem quantEntry_abs_le {x : α} (hx : x ∈ col) : |quantEntry (bucketSize N col) x| ≤ (N : Int) := by
  have h := quantEntryFl_abs_le (fl := id) (u := 0) (rb := false) (rr := false) hN col le_rfl rfl
    (opErr_lt_one hN le_rfl (by simp) false) (nowrap_cond hN le_rfl (by simp) false false) hx
    fun _ => .of_forall flOK_id ..
  rwa [bucketSizeFl_id, quantEntryFl_id] at h

theorem quantEntry_max (hm : 0 < maxAbs col) {x : α} (hmax : |x| = maxAbs col) :
    |quantEntry (bucketSize N col) x| = (N : Int) := by
  have h := quantEntryFl_max (fl := id) (u := 0) (rb := false) (rr := false) hN col le_rfl
    (opErr_lt_one hN le_rfl (by simp) false) (nowrap_cond hN le_rfl (by simp) false false) hm hmax
    (.of_forall flOK_id ..)
  rwa [bucketSizeFl_id, quantEntryFl_id] at h

theorem bucketSize_dequant :
    bucketSize N (col.map fun x => dequantEntry (bucketSize N col) (quantEntry (bucketSize N col) x))
      = bucketSize N col := by
  -- `u = 0` in `bucketSize_dequantFl`: the new bucket lies between `B·1` and `B·1`
  obtain ⟨h1, h2⟩ := bucketSize_dequantFl (fl := id) hN col le_rfl (by simp) flOK_id false false
  simp only [add_zero, sub_zero, mul_one, bucketSizeFl_id, quantEntryFl_id, dequantEntryFl_id] at h1 h2
  refine le_antisymm h1 ?_
  by_cases hm : 0 < maxAbs col
  · exact h2 hm
  · exact (not_lt.mp (mt (bucketSize_pos_iff hN _).mp hm)).trans (bucketSize_nonneg N _)

theorem quantEntry_dequant {x : α} (hx : x ∈ col) :
    quantEntry (bucketSize N col) (dequantEntry (bucketSize N col) (quantEntry (bucketSize N col) x))
      = quantEntry (bucketSize N col) x := by
  have h := quantEntryFl_requant (fl := id) hN col le_rfl (by simp) flOK_id false false false false hx
  simp only [bucketSizeFl_id, quantEntryFl_id, dequantEntryFl_id] at h
  rwa [bucketSize_dequant hN col] at h

end column

theorem dequantize_sub (N rows cols : Nat) (ed : Bool) (x : Nat → Nat → α) (i c : Nat) :
    dequantize ed (quantize N rows cols ed x) i c - x i c
      = dequantEntry (bucketSize N (column rows (pre ed x) c))
          (quantEntry (bucketSize N (column rows (pre ed x) c)) (pre ed x i c)) - pre ed x i c :=
  dequantizeFl_sub (fl := id) rfl false false N rows cols ed x i c

theorem dequantize_zero (N rows cols : Nat) (ed : Bool) {x : Nat → Nat → α} {i c : Nat} (hx : x i c = 0) :
    dequantize ed (quantize N rows cols ed x) i c = 0 :=
  dequantizeFl_zero (fl := id) rfl false false N rows cols ed hx

theorem dequantize_diag (N rows cols : Nat) (x : Nat → Nat → α) (i : Nat) :
    dequantize true (quantize N rows cols true x) i i = x i i :=
  dequantizeFl_diag (fl := id) rfl false false N rows cols x i

theorem pre_dequantize (N rows cols : Nat) (ed : Bool) (x : Nat → Nat → α) (i c : Nat) :
    pre ed (dequantize ed (quantize N rows cols ed x)) i c
      = dequantEntry (bucketSize N (column rows (pre ed x) c))
          (quantEntry (bucketSize N (column rows (pre ed x) c)) (pre ed x i c)) :=
  pre_dequantizeFl (fl := id) rfl false false N rows cols ed x i c

theorem column_pre_dequantize (N rows cols : Nat) (ed : Bool) (x : Nat → Nat → α) (c : Nat) :
    column rows (pre ed (dequantize ed (quantize N rows cols ed x))) c
      = (column rows (pre ed x) c).map fun y =>
          dequantEntry (bucketSize N (column rows (pre ed x) c))
            (quantEntry (bucketSize N (column rows (pre ed x) c)) y) :=
  column_pre_dequantizeFl (fl := id) rfl false false N rows cols ed x c

end
end PrecondVerif.Quant
