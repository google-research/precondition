/-
Lemmas about the quantization model (`Model/Quant.lean`) in an arbitrary linearly ordered field
with a lawful integer floor: the model's equations, column maxima and bucket size, integers near a number, floor and
`roundHalfEven`.
-/
import PrecondVerif.Model.Quant
import PrecondVerif.Lemmas.Basic.Fold
import Mathlib.Data.Rat.Floor
import Mathlib.Tactic.LinearCombination

namespace PrecondVerif.Quant

/-- the model's floor is a floor: the Galois connection `z ≤ ⌊x⌋ ↔ (z : α) ≤ x` -/
class LawfulFloor (α : Type) [Field α] [LinearOrder α] [HasFloor α] : Prop where
  le_floor : ∀ (z : Int) (x : α), z ≤ HasFloor.floor x ↔ (z : α) ≤ x

instance : LawfulFloor ℚ := ⟨fun _ _ => Rat.le_floor_iff⟩

/-- any `FloorRing` provides a floor for the model … -/
@[reducible] def HasFloor.ofFloorRing (α : Type) [Ring α] [LinearOrder α] [FloorRing α] : HasFloor α :=
  ⟨Int.floor⟩

/-- … and it is lawful: the theorems hold in every linearly ordered field with a floor. -/
theorem LawfulFloor.ofFloorRing (α : Type) [Field α] [LinearOrder α] [FloorRing α] :
    @LawfulFloor α _ _ (HasFloor.ofFloorRing α) :=
  @LawfulFloor.mk α _ _ (HasFloor.ofFloorRing α) (fun _ _ => Int.le_floor)

theorem mem_column {α : Type} {rows : Nat} (x : Nat → Nat → α) {i : Nat} (c : Nat) (hi : i < rows) :
    x i c ∈ column rows x c := by
  unfold column
  exact List.mem_map.mpr ⟨i, List.mem_range.mpr hi, rfl⟩

section model
variable {α : Type} [Field α]

theorem pre_diag (x : Nat → Nat → α) (i : Nat) : pre true x i i = 0 := by
  simp [pre, offDiag]

theorem pre_eq_zero (ed : Bool) {x : Nat → Nat → α} {i c : Nat} (hx : x i c = 0) : pre ed x i c = 0 := by
  cases ed
  · simpa [pre] using hx
  · by_cases hic : i = c
    · subst hic; exact pre_diag x i
    · simp [pre, offDiag, hic, hx]

/-- `x = pre ed x + (extracted diagonal)` -/
theorem pre_add (ed : Bool) (x : Nat → Nat → α) (i c : Nat) :
    x i c = pre ed x i c + (if ed = true ∧ i = c then x i i else 0) := by
  cases ed <;> simp [pre, offDiag]

variable [LinearOrder α] [HasFloor α]

@[simp] theorem quantize_bucket (N rows cols : Nat) (ed : Bool) (x : Nat → Nat → α) (c : Nat) :
    (quantize N rows cols ed x).bucket c = bucketSize N (column rows (pre ed x) c) := by
  simp only [quantize, lookup_table]

@[simp] theorem quantize_q (N rows cols : Nat) (ed : Bool) (x : Nat → Nat → α) (i c : Nat) :
    (quantize N rows cols ed x).q i c
      = quantEntry (bucketSize N (column rows (pre ed x) c)) (pre ed x i c) := by
  simp only [quantize, lookup_table]

@[simp] theorem quantize_diag (N rows cols : Nat) (ed : Bool) (x : Nat → Nat → α) (i : Nat) :
    (quantize N rows cols ed x).diag i = if ed then x i i else 0 := by
  simp only [quantize]

end model

theorem ne_neg_sub_one_of_abs_le {N : Nat} {q : Int} (h : |q| ≤ (N : Int)) : q ≠ -(N : Int) - 1 := by
  intro hc
  rw [hc] at h
  have := abs_le.mp h
  omega

theorem maxG_eq {α : Type} [LinearOrder α] (a b : α) : maxG a b = max a b := by
  rw [maxG, max_def_lt]

theorem maxAbs_nonneg {α : Type} [Field α] [LinearOrder α] (col : List α) : 0 ≤ maxAbs col :=
  rel_foldl (· ≤ ·) le_refl le_trans _ (fun a b => by rw [maxG_eq]; exact le_max_left _ _) col 0

section
variable {α : Type} [Field α] [LinearOrder α] [IsStrictOrderedRing α]

theorem absG_eq (x : α) : absG x = |x| := by
  unfold absG
  split
  · rename_i h; exact (abs_of_neg h).symm
  · rename_i h; exact (abs_of_nonneg (not_lt.mp h)).symm

theorem le_maxAbs {col : List α} {x : α} (hx : x ∈ col) : |x| ≤ maxAbs col :=
  rel_foldl_of_mem (· ≤ ·) le_refl le_trans _ (|·|) (fun a b => by rw [maxG_eq]; exact le_max_left _ _)
    (fun a b => by rw [maxG_eq, absG_eq]; exact le_max_right _ _) col 0 x hx

/-- the fold starts at `0`: that is the first alternative -/
theorem maxAbs_attained (col : List α) : maxAbs col = 0 ∨ ∃ x ∈ col, |x| = maxAbs col := by
  rcases foldl_eq_init_or_mem (fun m x => maxG m (absG x)) (|·|)
    (fun a b => by rw [maxG_eq, absG_eq]; exact max_choice a |b|) col 0 with h | ⟨x, hx, h⟩
  · exact Or.inl h
  · exact Or.inr ⟨x, hx, h.symm⟩

theorem maxAbs_le {col : List α} {M : α} (hM : 0 ≤ M) (hle : ∀ x ∈ col, |x| ≤ M) : maxAbs col ≤ M := by
  rcases maxAbs_attained col with h | ⟨y, hy, h⟩
  · rwa [h]
  · rw [← h]; exact hle y hy

theorem eq_zero_of_maxAbs {col : List α} {x : α} (hx : x ∈ col) (hm : ¬ 0 < maxAbs col) : x = 0 :=
  abs_eq_zero.mp (le_antisymm ((le_maxAbs hx).trans (not_lt.mp hm)) (abs_nonneg x))

theorem exists_abs_eq_maxAbs {rows : Nat} (y : Nat → Nat → α) (c : Nat) (hm : 0 < maxAbs (column rows y c)) :
    ∃ i, i < rows ∧ |y i c| = maxAbs (column rows y c) := by
  obtain ⟨z, hz, h⟩ := (maxAbs_attained (column rows y c)).resolve_left hm.ne'
  obtain ⟨i, hi, rfl⟩ := List.mem_map.mp hz
  exact ⟨i, List.mem_range.mp hi, h⟩

theorem bucketSize_nonneg (N : Nat) (col : List α) : 0 ≤ bucketSize N col :=
  div_nonneg (maxAbs_nonneg col) (Nat.cast_nonneg N)

section column
variable {N : Nat} (hN : 1 ≤ N) (col : List α)
include hN

theorem mul_bucketSize : (N : α) * bucketSize N col = maxAbs col :=
  mul_div_cancel₀ _ (Nat.cast_pos.mpr hN).ne'

theorem bucketSize_pos_iff : 0 < bucketSize N col ↔ 0 < maxAbs col :=
  div_pos_iff_of_pos_right (Nat.cast_pos.mpr hN)

theorem abs_le_mul_bucketSize {x : α} (hx : x ∈ col) : |x| ≤ (N : α) * bucketSize N col :=
  (le_maxAbs hx).trans_eq (mul_bucketSize hN col).symm

end column

/-- an integer within `1/2` of a number of magnitude `< N + 1/2` has magnitude `≤ N` -/
theorem int_abs_le_of_near {N : Nat} {q : Int} {r : α} (hq : |(q : α) - r| ≤ 1 / 2) (hr : |r| < (N : α) + 1 / 2) :
    |q| ≤ (N : Int) := by
  have h := abs_sub_abs_le_abs_sub (q : α) r
  have : ((|q| : Int) : α) < (((N : Int) + 1 : Int) : α) := by
    push_cast
    linear_combination h + hq + hr
  exact Int.lt_add_one_iff.mp (Int.cast_lt.mp this)

/-- two integers, one within `1/2` and one within `< 1/2` of the same number, are equal -/
theorem int_eq_of_near {z q : Int} {r : α} (hz : |(z : α) - r| ≤ 1 / 2) (hq : |r - (q : α)| < 1 / 2) : z = q := by
  have h := abs_sub_le (z : α) r q
  have : ((|z - q| : Int) : α) < ((1 : Int) : α) := by
    push_cast
    linear_combination h + hz + hq
  exact sub_eq_zero.mp (Int.abs_lt_one_iff.mp (Int.cast_lt.mp this))

end

section Floor
variable {α : Type} [Field α] [LinearOrder α] [HasFloor α] [LawfulFloor α]

theorem floor_le (x : α) : ((HasFloor.floor x : Int) : α) ≤ x :=
  (LawfulFloor.le_floor _ x).mp le_rfl

theorem lt_floor_add_one (x : α) : x < ((HasFloor.floor x : Int) : α) + 1 := by
  by_contra h
  have h' : (((HasFloor.floor x + 1 : Int)) : α) ≤ x := by
    push_cast; exact not_lt.mp h
  have := (LawfulFloor.le_floor (HasFloor.floor x + 1) x).mpr h'
  omega

variable [IsStrictOrderedRing α]

theorem floor_eq {z : Int} {x : α} (h1 : (z : α) ≤ x) (h2 : x < (z : α) + 1) : HasFloor.floor x = z := by
  apply le_antisymm _ ((LawfulFloor.le_floor z x).mpr h1)
  have : ((HasFloor.floor x : Int) : α) < ((z + 1 : Int) : α) := by
    push_cast
    exact (floor_le x).trans_lt h2
  exact Int.lt_add_one_iff.mp (Int.cast_lt.mp this)

/-- rounding moves a number by at most one half: with `r = x - ⌊x⌋ ∈ [0, 1)` the result is `⌊x⌋` when `2r ≤ 1` and
`⌊x⌋ + 1` when `2r ≥ 1` -/
theorem round_err (x : α) : |((roundHalfEven x : Int) : α) - x| ≤ 1 / 2 := by
  have h1 := floor_le x
  have h2 := lt_floor_add_one x
  unfold roundHalfEven
  simp only
  split
  · rename_i hlt
    exact abs_le.mpr ⟨by linear_combination (1 / 2) * hlt, by linear_combination h1⟩
  · rename_i hlt
    have hge := not_lt.mp hlt
    split
    · push_cast
      exact abs_le.mpr ⟨by linear_combination h2, by linear_combination (1 / 2) * hge⟩
    · rename_i hgt
      have hle := not_lt.mp hgt
      split
      · exact abs_le.mpr ⟨by linear_combination (1 / 2) * hle, by linear_combination h1⟩
      · push_cast
        exact abs_le.mpr ⟨by linear_combination h2, by linear_combination (1 / 2) * hge⟩

theorem round_intCast (z : Int) : roundHalfEven ((z : Int) : α) = z := by
  unfold roundHalfEven
  simp only [floor_eq (le_refl (z : α)) (lt_add_one _)]
  rw [if_pos]
  simp

theorem round_zero : roundHalfEven (0 : α) = 0 := by
  have := round_intCast (α := α) 0
  simpa using this

/-- ties go to the even neighbour (this is `jnp.round`, not round-half-away) -/
theorem round_tie (z : Int) :
    roundHalfEven ((z : α) + 1 / 2) = if z % 2 = 0 then z else z + 1 := by
  have hf : HasFloor.floor ((z : α) + 1 / 2) = z := floor_eq (by linear_combination ) (by linear_combination )
  unfold roundHalfEven
  simp only [hf]
  have e : (z : α) + 1 / 2 - (z : α) + ((z : α) + 1 / 2 - (z : α)) = 1 := by ring
  rw [e]
  simp

theorem quantEntry_zero (b : α) : quantEntry b (0 : α) = 0 := by
  unfold quantEntry
  rw [zero_div]; exact round_zero

end Floor

end PrecondVerif.Quant
