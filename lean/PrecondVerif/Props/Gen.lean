/-
Bridge theorems between the Lean definitions GENERATED from the Python source on every run
(`Gen/Src.lean`, written by `harness/py2lean.py`) and the hand-written models the C06 / C10 theorems are about.

`Gen.f (casts of the inputs) = casts of (Model.f inputs)` for ALL inputs in the stated domain: any list of
naturals as a shape (`ints l`), any natural block size / merge limit / dimension, any integer
`compression_rank`.  With a bridge in place every theorem of `Props/C06.lean` / `Props/C10.lean` about the
model function is a theorem about the code as translated today (`gen_*` theorems below spell out some).
When the source changes behaviour, `Gen/Src.lean` changes and the corresponding proof stops type-checking.

Theorems are grouped by the property whose check builds them: every namespace `GenProps.Cxx` (`C02`, `C05`, `C06`,
`C07`, `C10`, `C12`, `C13`, `C15`) is built by check Cxx through `lean_stage(extra_props=("Gen",))`.  A bridge that
several checks need is proved once and stated again in each of their namespaces; `should_precondition_dims_bridge`,
`preconditioner_shape_bridge`, `exponent_for_preconditioner_bridge`, `precond_dim_bridge`, `to_pad_spec` restate lemmas of
`Lemmas/GenBridge.lean` that other bridges build on.
Helper lemmas are in `Lemmas/GenBridge.lean` (Python built-ins: `Lemmas/GenPrelude.lean`).
-/
import PrecondVerif.Lemmas.GenBridge
import PrecondVerif.Model.Graft
import PrecondVerif.Model.Devices

namespace PrecondVerif.GenProps.C06
open PrecondVerif PrecondVerif.GenBridge

/-- `distributed_shampoo.merge_small_dims` as translated = `Shapes.mergeSmallDims`. -/
theorem merge_small_dims_bridge (s : List Nat) (m : Nat) :
    Gen.mergeSmallDims (ints s) (m : Int) = ints (Shapes.mergeSmallDims s m) := by
  unfold Gen.mergeSmallDims Shapes.mergeSmallDims
  have hguard : ((!(ints s).isEmpty) && (ints s).all fun v => decide (v = (1 : Int))) = true ↔
      s ≠ [] ∧ s.all (· == 1) = true := by
    have hone : ((fun v : Int => decide (v = 1)) ∘ fun (n : Nat) => (n : Int)) = (· == 1) := funext fun n => by
      rw [Function.comp, Bool.eq_iff_iff, decide_eq_true_eq, beq_iff_eq, GenPrelude.natCast_eq_one]
    rw [Bool.and_eq_true, List.all_map, hone, Bool.not_eq_true', List.isEmpty_eq_false_iff, ne_eq, List.map_eq_nil_iff]
  by_cases h : s ≠ [] ∧ s.all (· == 1) = true
  · rw [if_pos (hguard.mpr h), if_pos h]
    rfl
  · rw [if_neg (mt hguard.mp h), if_neg h]
    simpa only [decide_eq_true_eq, List.nil_append, Int.natCast_one] using merge_loop m s 1 []

/-- `BlockPartitioner.__init__` as translated: `_split_sizes` = `Shapes.splitAll`, and `_splits` is, for every
axis `i` with `0 < block_size < d`, the pair `(i, [b, 2b, …, nsplit·b])` (`GenBridge.splitsSpec`). -/
theorem block_partitioner_init_bridge (shape : List Nat) (b : Nat) :
    Gen.blockPartitionerInit (ints shape) (b : Int) =
      (splitsSpec b 0 shape, (Shapes.splitAll shape b).map ints) := by
  simp only [Gen.blockPartitionerInit, Gen.Py.enumerate, part_loop, List.nil_append]

/-- the axes recorded in `_splits` are exactly `Shapes.splitAxes` (in order). -/
theorem block_partitioner_split_axes (shape : List Nat) (b : Nat) :
    (Gen.blockPartitionerInit (ints shape) (b : Int)).1.map (·.1) = ints (Shapes.splitAxes shape b) := by
  rw [block_partitioner_init_bridge, splitsSpec_axes]
  simp [ints]

/-- the `jnp.split` indices recorded for a split axis are the offsets of its pieces after the first
(`Shapes.Tensor.split` slices at `Shapes.offsets (splitSizes d b) 0`). -/
theorem block_partitioner_split_indices (d b : Nat) (h : 0 < b ∧ b < d) :
    splitIndices d b = ints (Shapes.offsets (Shapes.splitSizes d b) 0).tail := by
  rw [splitIndices, Shapes.splitSizes_of_split h]
  simp only [Shapes.offsets_replicate_concat, List.range_succ_eq_map (n := (d - 1) / b), List.map_cons, List.tail_cons, ints,
    List.map_map]
  apply List.map_congr_left
  intro j _
  simp only [Function.comp, Nat.succ_eq_add_one, Nat.zero_add]
  rw [Int.natCast_mul]
  simp

/-- `Preconditioner.should_precondition_dims` as translated never falls through to `None` for the three
`PreconditionerType` values and equals `Shapes.shouldPreconditionDims` at `rank = len(split_sizes)`. -/
theorem should_precondition_dims_bridge (ss : List (List Int)) (pt : Shapes.PType) :
    Gen.shouldPreconditionDims ss (ptypeCode pt) = some (Shapes.shouldPreconditionDims pt ss.length) :=
  shouldPreconditionDims_bridge ss pt

/-- `tearfree/reshaper.py::_derive_shapes` as translated = `Shapes.deriveShapes` (all three fields). -/
theorem derive_shapes_bridge (mergeDims blockSize : Nat) (shape : List Nat) :
    Gen.deriveShapes (mergeDims : Int) (blockSize : Int) (ints shape) =
      (ints (Shapes.deriveShapes mergeDims blockSize shape).original,
       ints (Shapes.deriveShapes mergeDims blockSize shape).merged,
       ints (Shapes.deriveShapes mergeDims blockSize shape).padded) := by
  have h1 : (ints (Shapes.mergeSmallDims shape mergeDims) = [(1 : Int)]) ↔ Shapes.mergeSmallDims shape mergeDims = [1] :=
    ints_inj (b := [1])
  simp only [Gen.deriveShapes, Shapes.deriveShapes, merge_small_dims_bridge, decide_eq_true_eq, h1, Int.natCast_eq_zero]
  split
  · rfl
  · by_cases hb : blockSize = 0
    · simp [hb, Shapes.padDim]
    · rw [if_neg hb, pad_loop blockSize (Nat.pos_of_ne_zero hb), List.nil_append]

/-- `tearfree/shampoo.py::_blocks_metadata` as translated = `Shapes.blocksMetadata` (all seven integer fields;
`debug_name` is not translated). `blocks_axis = min(large_axes, default=0)` equals the model's `headD 0`
because `large_axes` is increasing. -/
theorem blocks_metadata_bridge (blockSize : Nat) (shape : List Nat) :
    Gen.blocksMetadata (blockSize : Int) (ints shape) =
      (let m := Shapes.blocksMetadata blockSize shape
       (ints m.blockSizes, (m.numBlocks : Int), (m.largeBlockSize : Int), ints m.paramShape, ints m.largeAxes,
        ints m.blocksPerLargeAxis, (m.blocksAxis : Int))) := by
  unfold Gen.blocksMetadata Shapes.blocksMetadata Gen.Py.enumerate
  have hlarge := enum_filter (fun x => decide (x ≥ (blockSize : Int))) (fun n => decide (n ≥ blockSize))
    (fun n => by simp) shape 0
  simp only [Int.zero_add] at hlarge
  simp only [hlarge]
  have hsorted : ((List.range shape.length).filter fun i => decide (shape.getD i 0 ≥ blockSize)).Pairwise (· < ·) :=
    List.Pairwise.filter _ List.pairwise_lt_range
  generalize ((List.range shape.length).filter fun i => decide (shape.getD i 0 ≥ blockSize)) = L at hsorted ⊢
  have hmin : Gen.Py.minD (ints L) 0 = ((L.headD 0 : Nat) : Int) := by
    rw [GenPrelude.minD_eq_headD_of_sorted _ _ ((hsorted.imp Nat.le_of_lt).map _ fun _ _ h => Int.ofNat_le.mpr h)]
    cases L <;> rfl
  have hbpl := map_ints_ints (fun i => Int.fdiv (Gen.Py.get (ints shape) i) (blockSize : Int))
    (fun i => shape.getD i 0 / blockSize) (fun i => by rw [py_get_ints, GenPrelude.fdiv_nat]) L
  have hdims := map_ints_ints (fun dim => min dim (blockSize : Int)) (min · blockSize) (fun a => by omega) shape
  simp only [hbpl, hdims, hmin, Gen.Py.prod, List.foldl_append, foldl_mul_ints, List.foldl_cons, List.foldl_nil,
    Int.one_mul, Int.mul_one]

/-- `Preconditioner._preconditioner_shape` as translated: `[dim, _precond_dim(rank, dim)]`. -/
theorem preconditioner_shape_bridge (c : Int) (d : Nat) :
    Gen.preconditionerShape c (d : Int) = [(d : Int), ((Shapes.precondDim c.natAbs d : Nat) : Int)] :=
  preconditionerShape_bridge c d

/-- `Preconditioner.shapes_for_preconditioners` as translated (loop over `itertools.product(*split_sizes)`,
`map(self._preconditioner_shape, t / t[:-1] / t[-1:])`) = `Shapes.shapesForPreconditioners`' body for ANY list of
per-axis size lists, every preconditioner type and every integer compression rank; pairs appear as 2-lists. -/
theorem shapes_for_preconditioners_bridge (ss : List (List Nat)) (pt : Shapes.PType) (c : Int) :
    Gen.shapesForPreconditioners (ss.map ints) (ptypeCode pt) c =
      ((Shapes.cartesian ss).flatMap fun t => (Shapes.blockPrecondDims pt t).map fun d => (d, Shapes.precondDim c.natAbs d)).map
        (fun p => [(p.1 : Int), (p.2 : Int)]) := by
  simp only [Gen.shapesForPreconditioners, py_product_ints, GenPrelude.len_eq, List.length_map]
  rw [shapes_loop pt c ss.length _ (Shapes.cartesian_mem_length ss)]
  unfold shapeEntries
  simp only [List.nil_append, List.map_flatMap, List.map_map]
  rfl

/-- the same composed with `BlockPartitioner.__init__` as translated: the model's `shapesForPreconditioners`. -/
theorem shapes_for_preconditioners_of_partitioner (shape : List Nat) (b : Nat) (pt : Shapes.PType) (c : Int) :
    Gen.shapesForPreconditioners (Gen.blockPartitionerInit (ints shape) (b : Int)).2 (ptypeCode pt) c =
      (Shapes.shapesForPreconditioners pt c.natAbs shape b).map (fun p => [(p.1 : Int), (p.2 : Int)]) := by
  rw [block_partitioner_init_bridge]
  exact shapes_for_preconditioners_bridge (Shapes.splitAll shape b) pt c

/-- `Preconditioner.exponent_for_preconditioner` as translated never yields `None` and equals
`Shapes.exponentForPreconditioner` at `rank = len(split_sizes)`. -/
theorem exponent_for_preconditioner_bridge (ss : List (List Int)) (pt : Shapes.PType) :
    Gen.exponentForPreconditioner ss (ptypeCode pt) =
      some ((Shapes.exponentForPreconditioner pt ss.length : Nat) : Int) :=
  exponent_bridge ss pt

/-- `Preconditioner._preconds_for_grad` as translated: whenever the slice `preconditioners[start:end]` has one
entry per preconditioned axis, the `assert len(..) == rank` holds (the result is `some _`, repaired D2) and the
result is the slice padded with `None` on the unpreconditioned axes. -/
theorem preconds_for_grad_assert_holds (P : List (Option Int)) (pt : Shapes.PType) (rank : Nat) (s e : Int)
    (hlen : (Gen.Py.slice P s e).length = Shapes.numPreconditioned pt rank) :
    Gen.precondsForGrad P (ptypeCode pt) (rank : Int) s e = some (padSlots pt rank (Gen.Py.slice P s e)) := by
  simp only [Gen.precondsForGrad, GenPrelude.len_eq, GenPrelude.repeat_one, GenPrelude.toNat_pred, decide_eq_true_eq,
    ptypeCode_eq_two, ptypeCode_eq_three, GenPrelude.natCast_le_one, Int.natCast_inj]
  -- the list the code builds is `padSlots`, and the length of that passes the `assert`
  have hpad : ∀ X : List (Option Int), X = padSlots pt rank (Gen.Py.slice P s e) →
      (if X.length = rank then some X else none) = some (padSlots pt rank (Gen.Py.slice P s e)) := fun X hX => by
    rw [hX, if_pos (padSlots_length pt rank _ hlen)]
  apply hpad
  unfold padSlots
  cases pt <;> simp

/-- … and on the list of positions `0 … n-1` with the call site's `start = i·k`, `end = (i+1)·k` it is the model's
`Shapes.precondsForGrad pt rank i`. -/
theorem preconds_for_grad_bridge (pt : Shapes.PType) (rank blockIx n : Nat)
    (hn : (blockIx + 1) * Shapes.numPreconditioned pt rank ≤ n) :
    Gen.precondsForGrad ((List.range n).map fun (j : Nat) => some (j : Int)) (ptypeCode pt) (rank : Int)
        ((blockIx * Shapes.numPreconditioned pt rank : Nat) : Int)
        (((blockIx + 1) * Shapes.numPreconditioned pt rank : Nat) : Int) =
      some ((Shapes.precondsForGrad pt rank blockIx).map (Option.map fun (j : Nat) => (j : Int))) := by
  generalize hk : Shapes.numPreconditioned pt rank = k at hn
  have hs : Gen.Py.slice ((List.range n).map fun (j : Nat) => some (j : Int)) ((blockIx * k : Nat) : Int)
      (((blockIx + 1) * k : Nat) : Int) = (List.range k).map fun j => some ((blockIx * k + j : Nat) : Int) := by
    rw [GenPrelude.slice_nat, ← List.map_take, ← List.map_drop, List.take_range, Nat.min_eq_left hn,
      List.range_eq_range', List.drop_range', Nat.zero_add, Nat.mul_one, Nat.add_one_mul, Nat.add_sub_cancel_left,
      List.range'_eq_map_range, List.map_map]
    rfl
  rw [preconds_for_grad_assert_holds _ _ _ _ _ (by rw [hs, List.length_map, List.length_range, hk]), hs]
  have hmap : ((List.range k).map fun j => some (blockIx * k + j)).map (Option.map fun (j : Nat) => (j : Int)) =
      (List.range k).map fun j => some ((blockIx * k + j : Nat) : Int) := by
    rw [List.map_map]
    rfl
  unfold padSlots Shapes.precondsForGrad
  rw [hk]
  -- the cast goes through both branches of the `rank ≤ 1` test and through the `None` padding
  cases pt <;> simp only [apply_ite (List.map _), List.map_append, List.map_cons, List.map_nil, List.map_replicate,
    Option.map_none, hmap]

/-! #### C06 theorems transported to the generated code -/

/-- `C06.merge_prod` for the code as translated: merging preserves the element count. -/
theorem gen_merge_prod (s : List Nat) (m : Nat) (h : ∀ d ∈ s, 1 ≤ d) :
    Gen.Py.prod (Gen.mergeSmallDims (ints s) (m : Int)) = Gen.Py.prod (ints s) := by
  rw [merge_small_dims_bridge, py_prod_ints, py_prod_ints, Shapes.mergeSmallDims_prod s m h]

/-- `C06.split_sum` for the code as translated: the block sizes of every axis add up to the dimension. -/
theorem gen_split_sizes_sum (shape : List Nat) (b : Nat) :
    (Gen.blockPartitionerInit (ints shape) (b : Int)).2.map Gen.Py.sum = ints shape := by
  rw [block_partitioner_init_bridge, Shapes.splitAll, List.map_map, List.map_map]
  exact List.map_congr_left fun d _ => by rw [Function.comp, Function.comp, py_sum_ints, Shapes.splitSizes_sum]

/-- `C06.pad_ge`/`pad_multiple` for the code as translated: every padded dimension is the model's `padDim`
of the merged one (so it is ≥ it, a multiple of the block size when large, and < merged + block). -/
theorem gen_padded_eq_padDim (mergeDims blockSize : Nat) (shape : List Nat)
    (h : Shapes.mergeSmallDims shape mergeDims ≠ [1]) :
    (Gen.deriveShapes (mergeDims : Int) (blockSize : Int) (ints shape)).2.2 =
      ints ((Shapes.mergeSmallDims shape mergeDims).map (Shapes.padDim · blockSize)) := by
  rw [derive_shapes_bridge]
  simp [Shapes.deriveShapes, h]

example : Gen.mergeSmallDims [1, 2, 512, 1, 2048, 1, 3, 4] 1024 = [1024, 2048, 12] := by decide
example : Gen.blockPartitionerInit [7, 2] 3 = ([(0, [3, 6])], [[3, 3, 1], [2]]) := by decide
example : Gen.deriveShapes 4 2 [3, 1, 5, 2, 2] = ([3, 1, 5, 2, 2], [3, 5, 4], [4, 6, 4]) := by decide
example : Gen.blocksMetadata 2 [4, 1, 6] = ([2, 1, 2], 6, 2, [4, 1, 6], [0, 2], [2, 3], 0) := by rfl
example : Gen.shouldPreconditionDims [[3], [2]] 2 = some [true, false] := by decide
example : Gen.shapesForPreconditioners [[3, 1], [2]] 2 (-1) = [[3, 3], [1, 1]] := by decide
example : Gen.exponentForPreconditioner [[3], [2], [2]] 3 = some 2 := by decide
example : Gen.precondsForGrad [some 0, some 1, some 2, some 3] 2 3 2 4 = some [some 2, some 3, none] := by decide
example : Gen.precondsForGrad [some 0, some 1] 2 3 0 1 = none := by decide

end PrecondVerif.GenProps.C06

namespace PrecondVerif.GenProps.C10
open PrecondVerif PrecondVerif.GenBridge

/-- `_precond_dim` as translated = `Shapes.precondDim` at `r = |compression_rank|`, for every integer rank. -/
theorem precond_dim_bridge (c : Int) (d : Nat) :
    Gen.precondDim c (d : Int) = ((Shapes.precondDim c.natAbs d : Nat) : Int) :=
  precondDim_bridge c d

/-- `_should_compress` as translated = `Shapes.shouldCompress` at `r = |compression_rank|`. -/
theorem should_compress_bridge (c : Int) (d : Nat) :
    Gen.shouldCompress c (d : Int) = Shapes.shouldCompress c.natAbs d := by
  unfold Gen.shouldCompress Shapes.shouldCompress
  rw [Bool.eq_iff_iff]
  simp only [Bool.and_eq_true, decide_eq_true_eq, bne_iff_ne, ne_eq]
  omega

/-- `C06.precondDim_consistent` for the code as translated: a dimension is stored compressed exactly when
compression is applied, and then with `|rank| + 2` columns. -/
theorem gen_precond_dim_consistent (c : Int) (d : Nat) :
    (Gen.shouldCompress c (d : Int) = true ↔ Gen.precondDim c (d : Int) < (d : Int)) ∧
    (Gen.shouldCompress c (d : Int) = false → Gen.precondDim c (d : Int) = (d : Int)) ∧
    (Gen.shouldCompress c (d : Int) = true → Gen.precondDim c (d : Int) = (c.natAbs : Int) + 2) := by
  rw [precondDim_bridge, should_compress_bridge]
  exact_mod_cast Shapes.precondDim_consistent c.natAbs d

example : Gen.precondDim (-2) 5 = 4 ∧ Gen.shouldCompress (-2) 5 = true ∧ Gen.precondDim 3 5 = 5 := by decide

end PrecondVerif.GenProps.C10

namespace PrecondVerif.GenProps.C13
open PrecondVerif PrecondVerif.GenBridge

/-- The padding count `to_pad = -n % d` (the common shape of every such assignment in `distributed_shampoo.py`,
extracted by the assign-pattern rule) is the least non-negative `r` with `d ∣ n + r`: direct theorems about the
generated definition (no hand-written model involved). -/
theorem to_pad_spec (n D : Nat) (hD : 0 < D) :
    0 ≤ Gen.toPad (n : Int) (D : Int) ∧ Gen.toPad (n : Int) (D : Int) < (D : Int) ∧
      (D : Int) ∣ (n : Int) + Gen.toPad (n : Int) (D : Int) :=
  toPad_spec n D hD

theorem to_pad_minimal (n D : Nat) (hD : 0 < D) (r : Int) (hr : 0 ≤ r) (hdvd : (D : Int) ∣ (n : Int) + r) :
    Gen.toPad (n : Int) (D : Int) ≤ r := by
  have hD' : (0 : Int) ≤ (D : Int) := Int.le_of_lt (Int.natCast_pos.mpr hD)
  -- `-n` and `r` are congruent modulo `D`, and `r % D = r - D * (r / D) ≤ r` for `r ≥ 0`
  have h1 : (-(n : Int)) % (D : Int) = r % (D : Int) :=
    Int.emod_eq_emod_iff_emod_sub_eq_zero.mpr (Int.emod_eq_zero_of_dvd (by
      rw [Int.sub_eq_add_neg, ← Int.neg_add]
      exact Int.dvd_neg.mpr hdvd))
  rw [toPad_eq_emod, h1, Int.emod_def]
  exact Int.sub_le_self r (Int.mul_nonneg hD' (Int.ediv_nonneg hr hD'))

/-- `Gen.toPad` = `Devices.toPad` (the C13 model's `(D - n % D) % D`) for every positive device count. -/
theorem to_pad_devices_bridge (n D : Nat) (hD : 0 < D) :
    Gen.toPad (n : Int) (D : Int) = ((Devices.toPad n D : Nat) : Int) := by
  rw [toPad_eq_emod, Int.neg_emod_eq_sub_emod, ← Int.sub_emod_emod, Devices.toPad, Int.natCast_emod,
    Int.natCast_sub (Nat.le_of_lt (Nat.mod_lt n hD)), Int.natCast_emod]

example : Gen.toPad 5 4 = 3 ∧ Gen.toPad 8 4 = 0 ∧ Gen.toPad 0 3 = 0 := by decide

end PrecondVerif.GenProps.C13

namespace PrecondVerif.GenProps.C02
open PrecondVerif PrecondVerif.GenBridge

/-! The geometry `Model/DShampoo.lean` (`Geom`) is built from: merged shape, block sizes, preconditioned axes,
exponent, slot lists — as regenerated from the source. -/

theorem merge_small_dims_bridge (s : List Nat) (m : Nat) :
    Gen.mergeSmallDims (ints s) (m : Int) = ints (Shapes.mergeSmallDims s m) :=
  C06.merge_small_dims_bridge s m

theorem split_sizes_bridge (shape : List Nat) (b : Nat) :
    (Gen.blockPartitionerInit (ints shape) (b : Int)).2 = (Shapes.splitAll shape b).map ints :=
  congrArg Prod.snd (C06.block_partitioner_init_bridge shape b)

theorem should_precondition_dims_bridge (ss : List (List Int)) (pt : Shapes.PType) :
    Gen.shouldPreconditionDims ss (ptypeCode pt) = some (Shapes.shouldPreconditionDims pt ss.length) :=
  shouldPreconditionDims_bridge ss pt

/-- the exponent `Geom.exponent` uses when not overridden. -/
theorem exponent_for_preconditioner_bridge (ss : List (List Int)) (pt : Shapes.PType) :
    Gen.exponentForPreconditioner ss (ptypeCode pt) =
      some ((Shapes.exponentForPreconditioner pt ss.length : Nat) : Int) :=
  exponent_bridge ss pt

theorem preconds_for_grad_bridge (pt : Shapes.PType) (rank blockIx n : Nat)
    (hn : (blockIx + 1) * Shapes.numPreconditioned pt rank ≤ n) :
    Gen.precondsForGrad ((List.range n).map fun (j : Nat) => some (j : Int)) (ptypeCode pt) (rank : Int)
        ((blockIx * Shapes.numPreconditioned pt rank : Nat) : Int)
        (((blockIx + 1) * Shapes.numPreconditioned pt rank : Nat) : Int) =
      some ((Shapes.precondsForGrad pt rank blockIx).map (Option.map fun (j : Nat) => (j : Int))) :=
  C06.preconds_for_grad_bridge pt rank blockIx n hn

end PrecondVerif.GenProps.C02

namespace PrecondVerif.GenProps.C05
open PrecondVerif PrecondVerif.GenBridge

/-- `_skip_preconditioning` (closure of `distributed_shampoo`) as translated = `Graft.dsSkip`. -/
theorem ds_skip_bridge (rankLt dimGt : Nat) (shape : List Nat) :
    Gen.dsSkipPreconditioning (rankLt : Int) (dimGt : Int) (ints shape) = Graft.dsSkip rankLt dimGt shape := by
  simp only [Gen.dsSkipPreconditioning, Graft.dsSkip, any_gt_ints, GenPrelude.len_eq, List.length_map, Int.ofNat_lt]

/-- the predicate of tearfree `grafting._mask_skipped` (`_maybe_mask` returns the mask) = `Graft.tfMaskSkipped`. -/
theorem tf_mask_skipped_bridge (rank1 : Bool) (anyDimGt : Nat) (shape : List Nat) :
    Gen.tfMaskSkipped rank1 (anyDimGt : Int) (ints shape) = Graft.tfMaskSkipped rank1 anyDimGt shape := by
  simp only [Gen.tfMaskSkipped, Graft.tfMaskSkipped, any_gt_ints, GenPrelude.len_eq, List.length_map,
    GenPrelude.natCast_le_one]
  generalize (rank1 && decide (shape.length ≤ 1)) = a
  generalize shape.any (fun s => decide (anyDimGt < s)) = b
  cases a <;> cases b <;> rfl

example : Gen.dsSkipPreconditioning 2 4096 [5] = true ∧ Gen.dsSkipPreconditioning 1 4 [2, 5] = true ∧
    Gen.dsSkipPreconditioning 1 4 [2, 4] = false := by decide
example : Gen.tfMaskSkipped true 4096 [7] = true ∧ Gen.tfMaskSkipped false 4096 [7] = false := by decide

end PrecondVerif.GenProps.C05

namespace PrecondVerif.GenProps.C07
open PrecondVerif PrecondVerif.GenBridge

/-! `Model/Layout.lean` computes the state layout from these `Model/Shapes.lean` functions; the bridges make the
layout theorems speak about the shape bookkeeping as translated today. -/

theorem merge_small_dims_bridge (s : List Nat) (m : Nat) :
    Gen.mergeSmallDims (ints s) (m : Int) = ints (Shapes.mergeSmallDims s m) :=
  C06.merge_small_dims_bridge s m

theorem shapes_for_preconditioners_bridge (shape : List Nat) (b : Nat) (pt : Shapes.PType) (c : Int) :
    Gen.shapesForPreconditioners (Gen.blockPartitionerInit (ints shape) (b : Int)).2 (ptypeCode pt) c =
      (Shapes.shapesForPreconditioners pt c.natAbs shape b).map (fun p => [(p.1 : Int), (p.2 : Int)]) :=
  C06.shapes_for_preconditioners_of_partitioner shape b pt c

theorem precond_dim_bridge (c : Int) (d : Nat) :
    Gen.precondDim c (d : Int) = ((Shapes.precondDim c.natAbs d : Nat) : Int) :=
  precondDim_bridge c d

theorem derive_shapes_bridge (mergeDims blockSize : Nat) (shape : List Nat) :
    Gen.deriveShapes (mergeDims : Int) (blockSize : Int) (ints shape) =
      (ints (Shapes.deriveShapes mergeDims blockSize shape).original,
       ints (Shapes.deriveShapes mergeDims blockSize shape).merged,
       ints (Shapes.deriveShapes mergeDims blockSize shape).padded) :=
  C06.derive_shapes_bridge mergeDims blockSize shape

theorem blocks_metadata_bridge (blockSize : Nat) (shape : List Nat) :
    Gen.blocksMetadata (blockSize : Int) (ints shape) =
      (let m := Shapes.blocksMetadata blockSize shape
       (ints m.blockSizes, (m.numBlocks : Int), (m.largeBlockSize : Int), ints m.paramShape, ints m.largeAxes,
        ints m.blocksPerLargeAxis, (m.blocksAxis : Int))) :=
  C06.blocks_metadata_bridge blockSize shape

end PrecondVerif.GenProps.C07

namespace PrecondVerif.GenProps.C12
open PrecondVerif PrecondVerif.GenBridge

/-- `sm3._get_expanded_shape(shape, i)` as translated (direct theorem, `Model/SM3.lean` works on indices and has no
shape helper): ones everywhere except `shape[i]` at position `i`, so reshaping accumulator `i` to it broadcasts
along every other axis (`SM3.coverVals` reads accumulator `i` at `idx[i]`). -/
theorem sm3_expanded_shape (shape : List Nat) (i : Nat) (hi : i < shape.length) :
    Gen.sm3ExpandedShape (ints shape) (i : Int) =
      ints (List.replicate i 1 ++ [shape.getD i 0] ++ List.replicate (shape.length - i - 1) 1) := by
  have h1 : (((shape.length : Nat) : Int) - (i : Int) - 1).toNat = shape.length - i - 1 := by
    rw [← Int.natCast_sub (Nat.le_of_lt hi), GenPrelude.toNat_pred]
  simp only [Gen.sm3ExpandedShape, GenPrelude.len_eq, List.length_map, GenPrelude.repeat_one, Int.toNat_natCast, h1,
    py_get_ints, ints, List.map_append, List.map_replicate, List.map_cons, List.map_nil, Int.natCast_one]

/-- it has the rank of the gradient and the element count of accumulator `i`. -/
theorem sm3_expanded_shape_rank_and_count (shape : List Nat) (i : Nat) (hi : i < shape.length) :
    (Gen.sm3ExpandedShape (ints shape) (i : Int)).length = shape.length ∧
      Gen.Py.prod (Gen.sm3ExpandedShape (ints shape) (i : Int)) = ((shape.getD i 0 : Nat) : Int) := by
  rw [sm3_expanded_shape shape i hi, py_prod_ints]
  constructor
  · rw [List.length_map, List.length_append, List.length_append, List.length_replicate, List.length_replicate,
      List.length_singleton]
    omega
  · rw [Shapes.prod_append, Shapes.prod_append, Shapes.prod_replicate_one, Shapes.prod_replicate_one, Shapes.prod_cons,
      Shapes.prod_nil, Nat.one_mul, Nat.mul_one, Nat.mul_one]

example : Gen.sm3ExpandedShape [4, 5, 6] 1 = [1, 5, 1] := by decide

end PrecondVerif.GenProps.C12

namespace PrecondVerif.GenProps.C15
open PrecondVerif PrecondVerif.GenBridge

/-! `Model/Tearfree.lean` (C15) derives the merged / padded shape, the blocks of Tearfree Shampoo and the graft mask with
these `Model/Shapes.lean` / `Model/Graft.lean` functions (`secondOrderTx`, `shampooTx`, `graftTx`); the bridges make the
composition theorems of `Props/C15.lean` speak about the shape bookkeeping as translated from the source today. -/

/-- `reshaper._derive_shapes` as translated = `Shapes.deriveShapes` (original, merged, padded). -/
theorem derive_shapes_bridge (mergeDims blockSize : Nat) (shape : List Nat) :
    Gen.deriveShapes (mergeDims : Int) (blockSize : Int) (ints shape) =
      (ints (Shapes.deriveShapes mergeDims blockSize shape).original,
       ints (Shapes.deriveShapes mergeDims blockSize shape).merged,
       ints (Shapes.deriveShapes mergeDims blockSize shape).padded) :=
  C06.derive_shapes_bridge mergeDims blockSize shape

/-- `distributed_shampoo.merge_small_dims` (called by `_derive_shapes`) = `Shapes.mergeSmallDims`. -/
theorem merge_small_dims_bridge (s : List Nat) (m : Nat) :
    Gen.mergeSmallDims (ints s) (m : Int) = ints (Shapes.mergeSmallDims s m) :=
  C06.merge_small_dims_bridge s m

/-- `tearfree.shampoo._blocks_metadata` as translated = `Shapes.blocksMetadata`. -/
theorem blocks_metadata_bridge (blockSize : Nat) (shape : List Nat) :
    Gen.blocksMetadata (blockSize : Int) (ints shape) =
      (let m := Shapes.blocksMetadata blockSize shape
       (ints m.blockSizes, (m.numBlocks : Int), (m.largeBlockSize : Int), ints m.paramShape, ints m.largeAxes,
        ints m.blocksPerLargeAxis, (m.blocksAxis : Int))) :=
  C06.blocks_metadata_bridge blockSize shape

/-- the predicate of `grafting._mask_skipped` — evaluated on the ORIGINAL shape — = `Graft.tfMaskSkipped`. -/
theorem tf_mask_skipped_bridge (rank1 : Bool) (anyDimGt : Nat) (shape : List Nat) :
    Gen.tfMaskSkipped rank1 (anyDimGt : Int) (ints shape) = Graft.tfMaskSkipped rank1 anyDimGt shape :=
  C05.tf_mask_skipped_bridge rank1 anyDimGt shape

/-- on the translated source: the second-order stage sees the merged shape, the skip mask the original one —
`(4, 6)` reaches Shampoo as `[24]`, yet is not masked (the two facts in the header of `Model/Tearfree.lean`). -/
example : Gen.deriveShapes 1024 1024 [4, 6] = ([4, 6], [24], [24]) ∧ Gen.tfMaskSkipped true 4096 [4, 6] = false := by decide

end PrecondVerif.GenProps.C15
