/-
C06 — merging, blocking, blockifying and padding are lossless and self-consistent.
Property theorems and non-vacuity examples; the lemmas they rest on are in the `Lemmas/` files imported below.
All statements quantify over every rank, every dimension, every block size and merge limit.
-/
import PrecondVerif.Lemmas.PartitionIdx
import PrecondVerif.Lemmas.BlockifyIdx

namespace PrecondVerif.C06
open PrecondVerif.Shapes

/-- Merging small dimensions preserves the element count. -/
theorem merge_prod (shape : List Nat) (m : Nat) (h : ∀ d ∈ shape, 1 ≤ d) :
    prod (mergeSmallDims shape m) = prod shape := mergeSmallDims_prod shape m h

/-- Every merged dimension respects the limit, unless it is a single original dimension
that was already too large. -/
theorem merge_respects_limit (shape : List Nat) (m : Nat) :
    ∀ x ∈ mergeSmallDims shape m, x ≤ m ∨ x ∈ shape := by
  intro x hx
  by_cases hc : shape ≠ [] ∧ shape.all (· == 1) = true
  · rw [mergeSmallDims_of_ones m hc, List.mem_singleton] at hx
    subst hx
    exact Or.inr (beq_iff_eq.mp (List.all_eq_true.mp hc.2 _ (List.head_mem hc.1)) ▸ List.head_mem hc.1)
  · rw [mergeSmallDims_of_not m hc] at hx
    exact mergeGo_mem m shape shape 1 (Or.inr (Or.inr rfl)) (fun d hd => hd) x hx

/-- No unit dimension survives merging, except the all-ones tensor which becomes `[1]`. -/
theorem merge_no_units (shape : List Nat) (m : Nat) :
    mergeSmallDims shape m = [1] ∨ ∀ x ∈ mergeSmallDims shape m, 1 < x := by
  by_cases hc : shape ≠ [] ∧ shape.all (· == 1) = true
  · exact Or.inl (mergeSmallDims_of_ones m hc)
  · rw [mergeSmallDims_of_not m hc]
    exact Or.inr (mergeGo_gt_one m shape 1)

/-- Block sizes along one axis add up to the dimension. -/
theorem split_sum (d b : Nat) : (splitSizes d b).sum = d := splitSizes_sum d b

/-- No block exceeds the block size (when blocking applies at all). -/
theorem split_le_block (d b : Nat) (hb : 0 < b) (hd : b < d) :
    ∀ s ∈ splitSizes d b, s ≤ b := by
  intro s hs
  have := split_rem_bounds ⟨hb, hd⟩
  simp only [splitSizes_of_split ⟨hb, hd⟩, List.mem_append, List.mem_replicate, List.mem_singleton] at hs
  omega

/-- An unsplit axis (block size 0 or ≥ d) is one block of the full dimension. -/
theorem split_unsplit (d b : Nat) (h : ¬ (0 < b ∧ b < d)) : splitSizes d b = [d] := splitSizes_of_not h

/-- No empty block. -/
theorem split_pos (d b : Nat) (hd : 1 ≤ d) : ∀ s ∈ splitSizes d b, 1 ≤ s := splitSizes_pos d b hd

/-- Number of blocks along an axis: `⌈d / b⌉` in the code's `(d-1)//b + 1` form. -/
theorem split_count (d b : Nat) :
    (splitSizes d b).length = if 0 < b ∧ b < d then (d - 1) / b + 1 else 1 := splitSizes_length d b

/-- `BlockPartitioner`: merging the partition of ANY tensor (any rank, any dims, any block size)
succeeds and returns a tensor with the same shape and the same entry at every in-bounds index. -/
theorem merge_partition_id {α} [Inhabited α] (t : Tensor α) (b : Nat) :
    ∃ u, mergePartitions t.shape b (partition t b) = some u ∧ u.Eqv t :=
  mergePartitions_of_eqv t b _ (forall₂_eqv_refl _)

/-- The number of blocks is the product of the per-axis block counts. -/
theorem partition_count {α} (t : Tensor α) (b : Nat) :
    (partition t b).length =
      prod ((splitAxes t.shape b).map fun i => (splitSizes (t.shape.getD i 0) b).length) := by
  rw [partition_eq_partAxes, partAxes_length]; simp

/-- Row-major index maps are mutually inverse: flat position of the multi-index of a flat position … -/
theorem ravel_unravel_id (shape : List Nat) (k : Nat) (h : k < prod shape) :
    ravel shape (unravel shape k) = k := ravel_unravel shape k h

/-- … and multi-index of the flat position of an in-bounds multi-index. -/
theorem unravel_ravel_id (shape idx : List Nat) (h : inBounds shape idx) :
    unravel shape (ravel shape idx) = idx := unravel_ravel shape idx h

/-- Reshaping there and back is the identity on every in-bounds index whenever the element
counts agree. -/
theorem reshape_roundtrip {α} (t : Tensor α) (s : List Nat) (idx : List Nat)
    (hp : prod s = prod t.shape) (hi : inBounds t.shape idx) :
    ((t.reshape s).reshape t.shape).get idx = t.get idx :=
  (reshape_reshape_get t s t.shape idx hp.symm hi).trans (congrArg t.get (unravel_ravel t.shape idx hi))

/-- Tearfree `_deblockify ∘ _blockify` is the identity on every in-bounds entry, for every
parameter Tearfree Shampoo's `_init` accepts: any rank, at most two large axes (`dim ≥ block_size`),
each large axis a multiple of the block size. Covers the pure-reshape cases and the
reshape ∘ transpose ∘ reshape case (both permutations evaluated entry by entry). -/
theorem deblockify_blockify_id {α} (t : Tensor α) (b : Nat)
    (hle : (blocksMetadata b t.shape).largeAxes.length ≤ 2)
    (hdiv : ∀ a ∈ (blocksMetadata b t.shape).largeAxes, b ∣ t.shape.getD a 0) :
    (deblockify (blockify t (blocksMetadata b t.shape)) (blocksMetadata b t.shape)).Eqv t := by
  refine ⟨deblockify_shape _ _ hle, ?_⟩
  intro idx hi
  rw [deblockify_shape _ _ hle, blocksMetadata_paramShape] at hi
  rcases Nat.eq_zero_or_pos b with rfl | hb
  · -- block size 0 forces the scalar shape (`inBounds_nil_of_block_zero`); both maps are then reshapes of `[]`
    obtain ⟨hS, rfl⟩ := inBounds_nil_of_block_zero _ _ hdiv hi
    cases t with
    | mk shape get =>
      subst hS
      rfl
  · have h := blockedOK t.shape b hb hle hdiv
    rw [(h.bwd idx hi).2.2 _ (h.shape t rfl), (h.fwd _ (h.bwd idx hi).1).2.2 t rfl, (h.bwd idx hi).2.1]

/-- Tearfree padding never shrinks a dimension. -/
theorem pad_ge (s b : Nat) : s ≤ padDim s b := le_padDim s b

/-- It pads a large dimension to a multiple of the block … -/
theorem pad_multiple (s b : Nat) (hb : 0 < b) (hs : b ≤ s) : b ∣ padDim s b := by
  rw [padDim_of_le hb hs]
  exact Nat.dvd_mul_left b _

/-- … by less than a block … -/
theorem pad_lt_block (s b : Nat) (hb : 0 < b) : padDim s b < s + b := by
  rcases Nat.lt_or_ge s b with h | h
  · rw [padDim_of_lt h]; omega
  · rw [padDim_of_le hb h]
    have h2 : (s + b - 1) / b * b ≤ s + b - 1 := Nat.div_mul_le_self _ _
    omega

/-- … and leaves small dimensions alone. -/
theorem pad_small_unchanged (s b : Nat) (h : s < b) : padDim s b = s := padDim_of_lt h

/-- Tearfree merge-and-pad followed by unpad-and-unmerge returns every real entry. -/
theorem unmerge_merge_id {α} (zero : α) (mergeDims blockSize : Nat) (t : Tensor α)
    (hd : ∀ d ∈ t.shape, 1 ≤ d) (idx : List Nat) (hi : inBounds t.shape idx) :
    let s := deriveShapes mergeDims blockSize t.shape
    (tfUnmerge s blockSize (tfMerge zero s blockSize t)).get idx = t.get idx := by
  intro s
  have hlt : ravel t.shape idx < prod s.merged :=
    deriveShapes_merged_prod mergeDims blockSize t.shape hd ▸ ravel_lt t.shape idx hi
  rw [tfUnmerge_get, show s.original = t.shape from deriveShapes_original mergeDims blockSize t.shape,
    tfMerge_get _ _ _ _ _ (unravel_inBounds _ _ hlt)]
  exact reshape_get_of_ravel_eq t _ _ idx hi (ravel_unravel _ _ hlt).symm

/-- `_precond_dim` and `_should_compress` agree: a dimension is stored compressed exactly
when compression is applied. -/
theorem precondDim_consistent (r d : Nat) :
    (shouldCompress r d = true ↔ precondDim r d < d) ∧
    (shouldCompress r d = false → precondDim r d = d) ∧
    (shouldCompress r d = true → precondDim r d = r + 2) := Shapes.precondDim_consistent r d

/-- The slot list handed to `_precondition_block` always has one entry per axis. -/
theorem preconds_for_grad_length (pt : PType) (rank i : Nat) :
    (precondsForGrad pt rank i).length = rank := by
  rw [precondsForGrad_eq_slotsFrom, slotsFrom_length, shouldPreconditionDims_length]

/-- Slots are present exactly on the preconditioned axes. -/
theorem preconds_for_grad_slots (pt : PType) (rank i : Nat) :
    (precondsForGrad pt rank i).map Option.isSome = shouldPreconditionDims pt rank := by
  rw [precondsForGrad_eq_slotsFrom, slotsFrom_map_isSome]

/-- Exponent is twice the number of preconditioned axes, and that number is the rank for
ALL (or rank ≤ 1) and `rank - 1` / `1` for one-sided preconditioning. -/
theorem exponent_spec (pt : PType) (rank : Nat) :
    exponentForPreconditioner pt rank =
      2 * (match pt with
           | .all => rank
           | .input => if rank ≤ 1 then rank else rank - 1
           | .output => if rank ≤ 1 then rank else 1) := by
  rw [exponentForPreconditioner, numPreconditioned_eq]
  cases pt <;> simp

/-! ### where every entry goes: `partition`, then `blockify`, against the index maps of `Model/ShapesIdx.lean` -/

/-- **Blocks are contiguous sub-tensors.** Block number `k` of `BlockPartitioner.partition` — `k` counted in
`itertools.product` order of the per-axis pieces, first axis slowest: `blockCoords k` are the row-major digits of
`k` in the grid of piece counts — is exactly `t[o_1 : o_1+s_1, …, o_r : o_r+s_r]`, where `(o_a, s_a)` is the
`k_a`-th (prefix sum, size) of the split of axis `a`: its shape is `blockDims k`, its entry at `idx` is the
tensor's entry at `blockOffsets k + idx`, and no side of a split axis exceeds the block size. -/
theorem partition_contiguous {α} (t : Tensor α) (b k : Nat) (hk : k < (partition t b).length) :
    ((partition t b)[k]).shape = blockDims t.shape b k ∧
    (∀ idx : List Nat, idx.length = t.shape.length →
      ((partition t b)[k]).get idx = t.get (addOff (blockOffsets t.shape b k) idx)) ∧
    (∀ a, a < t.shape.length → 0 < b → b < t.shape.getD a 0 → (blockDims t.shape b k).getD a 0 ≤ b) := by
  obtain ⟨hs, hg⟩ := partition_getElem t b k hk
  refine ⟨hs, hg, ?_⟩
  intro a ha hb hd
  have hl : a < (blockCoords t.shape b k).length := by
    simp [blockCoords, unravel_length_eq, blockGrid_length, ha]
  have : (blockDims t.shape b k).getD a 0 =
      (splitSizes (t.shape.getD a 0) b).getD ((blockCoords t.shape b k).getD a 0) 0 := by
    simp [blockDims, List.getD_eq_getElem?_getD, ha, hl]
  rw [this]
  exact getD_le_of_forall_mem (split_le_block _ b hb hd) _

/-- number of blocks = product of the per-axis piece counts (all axes; an unsplit axis counts 1) -/
theorem partition_count_grid {α} (t : Tensor α) (b : Nat) :
    (partition t b).length = prod (blockGrid t.shape b) := partition_length t b

/-- **The blocks tile the tensor**: every in-bounds entry lies in exactly one block — `locateBlock` finds the
block number and the index inside the block, and any other (block, index) pair reaching the entry is that one. -/
theorem partition_blocks_tile (shape : List Nat) (b : Nat) (idx : List Nat) (hi : inBounds shape idx) :
    (locateBlock shape b idx).1 < prod (blockGrid shape b) ∧
    inBounds (blockDims shape b (locateBlock shape b idx).1) (locateBlock shape b idx).2 ∧
    addOff (blockOffsets shape b (locateBlock shape b idx).1) (locateBlock shape b idx).2 = idx ∧
    ∀ k j, k < prod (blockGrid shape b) → inBounds (blockDims shape b k) j →
      addOff (blockOffsets shape b k) j = idx →
      k = (locateBlock shape b idx).1 ∧ j = (locateBlock shape b idx).2 :=
  locateBlock_spec shape b idx hi

/-- every entry of every block is an entry of the tensor (no block reaches outside) -/
theorem partition_block_inside (shape : List Nat) (b k : Nat) (j : List Nat)
    (hk : k < prod (blockGrid shape b)) (hj : inBounds (blockDims shape b k) j) :
    inBounds shape (addOff (blockOffsets shape b k) j) := block_entry_inBounds shape b k j hk hj

/-- `merge_partitions` of ANY blocks that agree entry-wise with the blocks of `partition t` (e.g. blocks
transformed by something that is the identity) succeeds and returns `t`. -/
theorem merge_partition_congr {α} [Inhabited α] (t : Tensor α) (b : Nat) (parts : List (Tensor α))
    (h : List.Forall₂ Tensor.Eqv parts (partition t b)) :
    ∃ u, mergePartitions t.shape b parts = some u ∧ u.Eqv t := mergePartitions_of_eqv t b parts h

/-- **`partition ∘ merge_partitions = id`**: merging any list of blocks with the announced shapes succeeds, and
partitioning the result returns the blocks (shape and every in-bounds entry). -/
theorem partition_merge_id {α} [Inhabited α] (shape : List Nat) (b : Nat) (parts : List (Tensor α))
    (hs : parts.map (·.shape) = cartesian (splitAll shape b)) :
    ∃ u, mergePartitions shape b parts = some u ∧ u.shape = shape ∧
      List.Forall₂ Tensor.Eqv (partition u b) parts := partition_mergePartitions shape b parts hs

/-- **Announced preconditioners agree with the blocks produced** (ALL / INPUT / OUTPUT, any compression rank):
the shapes of the blocks `partition` returns are, in order, `itertools.product(*split_sizes)`;
`shapes_for_preconditioners` is, block by block in that order, the list of `[d, precond_dim d]` over the dims `d`
of THAT block at the axes `should_precondition_dims` flags; so there are (#blocks × #preconditioned axes) of
them. -/
theorem precond_shapes_agree_with_blocks {α} (pt : PType) (r : Nat) (t : Tensor α) (b : Nat) :
    (partition t b).map (·.shape) = cartesian (splitAll t.shape b) ∧
    shapesForPreconditioners pt r t.shape b =
      ((partition t b).flatMap fun blk =>
        (selectDims blk.shape (shouldPreconditionDims pt blk.shape.length)).map fun d => (d, precondDim r d)) ∧
    (∀ blk ∈ partition t b, blk.shape.length = t.shape.length) ∧
    (shapesForPreconditioners pt r t.shape b).length =
      (partition t b).length * numPreconditioned pt t.shape.length := by
  refine ⟨partition_shapes t b, ?_, partition_shape_length t b, shapesForPreconditioners_length pt r t b⟩
  rw [shapesForPreconditioners_eq_blocks]
  congr 1
  funext blk
  rw [blockPrecondDims_eq_select]

/-- shape of the Tearfree blockified array: `block_sizes` with `num_blocks` inserted at the blocks axis; no side
of a block exceeds the block size. -/
theorem blockify_shape {α} (t : Tensor α) (b : Nat) (hb : 0 < b)
    (hle : (blocksMetadata b t.shape).largeAxes.length ≤ 2)
    (hdiv : ∀ a ∈ (blocksMetadata b t.shape).largeAxes, b ∣ t.shape.getD a 0) :
    (blockify t (blocksMetadata b t.shape)).shape = blockedShape (blocksMetadata b t.shape) ∧
    ∀ s ∈ (blocksMetadata b t.shape).blockSizes, s ≤ b := by
  refine ⟨(blockedOK t.shape b hb hle hdiv).shape t rfl, ?_⟩
  intro s hs
  simp only [blocksMetadata, List.mem_map] at hs
  obtain ⟨d, _, rfl⟩ := hs
  exact Nat.min_le_right d b

/-- **Tearfree blocks are contiguous sub-tensors.** For 0, 1 or 2 large axes (small axes before, between and
after them), the entry at index `x` of `_blockify t` — block number `blk = x[blocks_axis]`, index inside the block
`inner = x` without that coordinate — is the parameter entry at `tfBlockOffsets blk + inner`: the block's grid
coordinates times the block size on the large axes, 0 on the small ones; and that index is in bounds. -/
theorem blockify_block_contiguous {α} (t : Tensor α) (b : Nat) (hb : 0 < b)
    (hle : (blocksMetadata b t.shape).largeAxes.length ≤ 2)
    (hdiv : ∀ a ∈ (blocksMetadata b t.shape).largeAxes, b ∣ t.shape.getD a 0)
    (x : List Nat) (hx : inBounds (blockedShape (blocksMetadata b t.shape)) x) :
    (blockify t (blocksMetadata b t.shape)).get x =
      t.get (addOff (tfBlockOffsets (blocksMetadata b t.shape) (x.getD (blocksMetadata b t.shape).blocksAxis 0))
        (popAt x (blocksMetadata b t.shape).blocksAxis)) ∧
    inBounds t.shape (unblockedIndex (blocksMetadata b t.shape) x) ∧
    unblockedIndex (blocksMetadata b t.shape) x =
      addOff (tfBlockOffsets (blocksMetadata b t.shape) (x.getD (blocksMetadata b t.shape).blocksAxis 0))
        (popAt x (blocksMetadata b t.shape).blocksAxis) := by
  have h := blockedOK t.shape b hb hle hdiv
  exact ⟨(h.fwd x hx).2.2 t rfl, (h.fwd x hx).1, rfl⟩

/-- **`_deblockify`, entry by entry**, for ANY array `X` of the blockified shape (not only outputs of `_blockify`):
the parameter entry at `idx` is `X` at (block number of `idx`) inserted at the blocks axis into (index of `idx`
inside its block). This is what entry-level statements about `deblockify ∘ f ∘ blockify` need. -/
theorem deblockify_pointwise {α} (S : List Nat) (b : Nat) (hb : 0 < b)
    (hle : (blocksMetadata b S).largeAxes.length ≤ 2)
    (hdiv : ∀ a ∈ (blocksMetadata b S).largeAxes, b ∣ S.getD a 0)
    (X : Tensor α) (hX : X.shape = blockedShape (blocksMetadata b S))
    (idx : List Nat) (hi : inBounds S idx) :
    (deblockify X (blocksMetadata b S)).get idx =
      X.get (insertAt (innerIndexOf (blocksMetadata b S) idx) (blocksMetadata b S).blocksAxis
        (blockIndexOf (blocksMetadata b S) idx)) ∧
    inBounds X.shape (blockedIndex (blocksMetadata b S) idx) :=
  have h := blockedOK S b hb hle hdiv
  ⟨(h.bwd idx hi).2.2 X hX, hX ▸ (h.bwd idx hi).1⟩

/-- the two index maps undo each other: the block and inner index of a parameter entry lead back to it -/
theorem unblocked_blocked_id (S : List Nat) (b : Nat) (hb : 0 < b)
    (hle : (blocksMetadata b S).largeAxes.length ≤ 2)
    (hdiv : ∀ a ∈ (blocksMetadata b S).largeAxes, b ∣ S.getD a 0)
    (idx : List Nat) (hi : inBounds S idx) :
    unblockedIndex (blocksMetadata b S) (blockedIndex (blocksMetadata b S) idx) = idx :=
  ((blockedOK S b hb hle hdiv).bwd idx hi).2.1

/-- converse of `unblocked_blocked_id`: an entry of the blockified array is found again from its parameter index -/
theorem blocked_unblocked_id (S : List Nat) (b : Nat) (hb : 0 < b)
    (hle : (blocksMetadata b S).largeAxes.length ≤ 2)
    (hdiv : ∀ a ∈ (blocksMetadata b S).largeAxes, b ∣ S.getD a 0)
    (x : List Nat) (hx : inBounds (blockedShape (blocksMetadata b S)) x) :
    blockedIndex (blocksMetadata b S) (unblockedIndex (blocksMetadata b S) x) = x :=
  ((blockedOK S b hb hle hdiv).fwd x hx).2.1

/-- **Per-axis pieces in closed form**: the `j`-th piece of an axis of size `d` starts at `j * b`, and when the axis
is split (`0 < b < d`) it ends at `min ((j+1)·b, d)` — all pieces but the last have size `b`. -/
theorem axis_piece_closed_form (d b j : Nat) (hj : j < (splitSizes d b).length) :
    (offsets (splitSizes d b) 0).getD j 0 = j * b ∧
    (splitSizes d b).getD j 0 = (if 0 < b ∧ b < d then min ((j + 1) * b) d else d) - j * b :=
  ⟨axis_offset_closed d b j hj, axis_size_closed d b j hj⟩

/-- `blockOffsets` (prefix sums of `splitSizes`) is `[k_1·b, …, k_r·b]`. -/
theorem block_offsets_closed_form (shape : List Nat) (b k : Nat) (hk : k < prod (blockGrid shape b)) :
    blockOffsets shape b k = (blockCoords shape b k).map (· * b) := (blockOffsets_closed shape b k hk).1

/-- **Block `k` is the slice `t[k_1·b : min((k_1+1)·b, d_1), …, k_r·b : min((k_r+1)·b, d_r)]`** (on an unsplit
axis `k_a = 0` and the slice is the whole axis) — the textbook form of "contiguous sub-tensor no larger than the
block size": shape = stop − start axis by axis, entry `idx` = the tensor's entry at `start + idx`. -/
theorem partition_block_is_slice {α} (t : Tensor α) (b k : Nat) (hk : k < (partition t b).length) :
    ((partition t b)[k]).shape =
      List.zipWith (fun d ka => (if 0 < b ∧ b < d then min ((ka + 1) * b) d else d) - ka * b) t.shape
        (blockCoords t.shape b k) ∧
    ∀ idx : List Nat, idx.length = t.shape.length →
      ((partition t b)[k]).get idx = t.get (addOff ((blockCoords t.shape b k).map (· * b)) idx) := by
  have hk' : k < prod (blockGrid t.shape b) := by rw [← partition_length]; exact hk
  obtain ⟨h1, h2, _⟩ := partition_contiguous t b k hk
  obtain ⟨c1, c2⟩ := blockOffsets_closed t.shape b k hk'
  rw [c2] at h1
  refine ⟨h1, ?_⟩
  intro idx hi
  rw [h2 idx hi, c1]

/-- **`tfBlockOffsets` in closed form** (any shape and block size): it has the parameter's rank; on the `i`-th large
axis it is the `i`-th grid coordinate of the block times the block size; it is 0 on every small axis. -/
theorem tf_block_offsets_closed_form (b : Nat) (S : List Nat) (blk : Nat) :
    (tfBlockOffsets (blocksMetadata b S) blk).length = S.length ∧
    (∀ i (hi : i < (blocksMetadata b S).largeAxes.length),
      (tfBlockOffsets (blocksMetadata b S) blk).getD ((blocksMetadata b S).largeAxes[i]) 0 =
        (unravel (blocksMetadata b S).blocksPerLargeAxis blk).getD i 0 * b) ∧
    (∀ k, k ∉ (blocksMetadata b S).largeAxes → (tfBlockOffsets (blocksMetadata b S) blk).getD k 0 = 0) := by
  have hlen : (unravel (blocksMetadata b S).blocksPerLargeAxis blk).length =
      (blocksMetadata b S).largeAxes.length := by
    rw [unravel_length_eq]; simp [blocksMetadata]
  have hfst : ((blocksMetadata b S).largeAxes.zip (unravel (blocksMetadata b S).blocksPerLargeAxis blk)).map
      (·.1) = (blocksMetadata b S).largeAxes := by
    exact List.map_fst_zip (by rw [hlen])
  refine ⟨tfBlockOffsets_length _ blk, ?_, ?_⟩
  · intro i hi
    have hz : i < ((blocksMetadata b S).largeAxes.zip
        (unravel (blocksMetadata b S).blocksPerLargeAxis blk)).length := by simp [hlen]; exact hi
    have hlt : (blocksMetadata b S).largeAxes[i] < S.length :=
      ((largeAxes_mem b S _).mp (List.getElem_mem hi)).1
    have := foldl_set_getD_mem (fun c => c * b) _ (List.replicate (blocksMetadata b S).paramShape.length 0) i hz
      (by rw [hfst]; exact largeAxes_nodup b S) (by simpa [blocksMetadata] using hlt)
    simp only [List.getElem_zip] at this
    have hi2 : i < (unravel (blocksMetadata b S).blocksPerLargeAxis blk).length := hlen ▸ hi
    rw [List.getD_eq_getElem?_getD (l := unravel _ _), List.getElem?_eq_getElem hi2]
    exact this
  · intro k hk
    exact (foldl_set_getD_not_mem (fun c => c * b) _ _ k (by rw [hfst]; exact hk)).trans
      (by simp only [List.getD_eq_getElem?_getD, List.getElem?_replicate]; split <;> rfl)

/-- **The Tearfree blocks tile the (padded) parameter**: every in-bounds parameter index comes from exactly one
in-bounds index of the blockified array — exactly one (block number at the blocks axis, index inside the block). -/
theorem blockify_blocks_tile (S : List Nat) (b : Nat) (hb : 0 < b)
    (hle : (blocksMetadata b S).largeAxes.length ≤ 2)
    (hdiv : ∀ a ∈ (blocksMetadata b S).largeAxes, b ∣ S.getD a 0)
    (idx : List Nat) (hi : inBounds S idx) :
    inBounds (blockedShape (blocksMetadata b S)) (blockedIndex (blocksMetadata b S) idx) ∧
    unblockedIndex (blocksMetadata b S) (blockedIndex (blocksMetadata b S) idx) = idx ∧
    ∀ x, inBounds (blockedShape (blocksMetadata b S)) x → unblockedIndex (blocksMetadata b S) x = idx →
      x = blockedIndex (blocksMetadata b S) idx :=
  have h := blockedOK S b hb hle hdiv
  ⟨(h.bwd idx hi).1, (h.bwd idx hi).2.1, fun x hx hxe => by rw [← hxe, (h.fwd x hx).2.1]⟩

/-! ### non-vacuity: concrete instances meeting the hypotheses -/

example : mergeSmallDims [1, 2, 512, 1, 2048, 1, 3, 4] 1024 = [1024, 2048, 12] := by decide
example : splitSizes 7 3 = [3, 3, 1] := by decide
example : (∀ d ∈ [3, 5], 1 ≤ d) ∧ inBounds [3, 5] [2, 4] := by simp [inBounds]
example : padDim 5 2 = 6 ∧ padDim 1 2 = 1 := by decide
example : shouldCompress 1 4 = true ∧ precondDim 1 4 = 3 := by decide
example : precondsForGrad .input 2 3 = [some 3, none] := by decide
example : (blocksMetadata 2 [4, 3]).largeAxes = [0, 1] ∧ (blocksMetadata 3 [6, 2]).largeAxes = [0] ∧ 3 ∣ 6 := by decide

example : blockOffsets [5, 3] 2 4 = [4, 0] ∧ blockDims [5, 3] 2 4 = [1, 2] ∧ blockCoords [5, 3] 2 4 = [2, 0] := by
  decide
example : locateBlock [5, 3] 2 [4, 1] = (4, [0, 1]) ∧ inBounds [5, 3] [4, 1] := ⟨by decide, by simp [inBounds]⟩
example : blockedIndex (blocksMetadata 4 [8, 3, 8]) [5, 1, 6] = [3, 1, 1, 2] ∧
    unblockedIndex (blocksMetadata 4 [8, 3, 8]) [3, 1, 1, 2] = [5, 1, 6] ∧
    blockedShape (blocksMetadata 4 [8, 3, 8]) = [4, 4, 3, 4] ∧
    (blocksMetadata 4 [8, 3, 8]).largeAxes = [0, 2] := by decide

example : blockOffsets [7, 3] 3 2 = [6, 0] ∧ (blockCoords [7, 3] 3 2).map (· * 3) = [6, 0] ∧
    blockDims [7, 3] 3 2 = [1, 3] := by decide
example : tfBlockOffsets (blocksMetadata 4 [8, 3, 8]) 3 = [4, 0, 4] := by decide

end PrecondVerif.C06
