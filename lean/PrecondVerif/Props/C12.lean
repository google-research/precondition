/-
C12 — SM3 accumulators cover the true second moment.

Only the property theorems and non-vacuity examples live here; helper lemmas are in
`Lemmas/SM3.lean`, the executable model (run at `Rat` and `Float` by the driver) in `Model/SM3.lean`.

Every theorem is stated for every tensor shape of rank ≥ 1 (`shape ≠ []`, any number of axes, any
sizes), every gradient history `gs` (a list of tensors, oldest first; induction over the list) and every
coordinate `idx ∈ indices shape`.  `accRun upd shape gs` are the accumulators the code holds after the
history, `cover accs idx = min_i acc_i[idx_i]`, `adaRun upd gs idx` is the per-coordinate accumulator of
diagonal AdaGrad / RMSProp run with the same update rule `upd` (old value, gradient entry).

* `sm3_cover_monotone`, `sm3_acc_nondecreasing`, `sm3_rank1_is_adagrad` use nothing but the order: they
  hold in every linear order for every update rule that is monotone (resp. inflationary, resp. arbitrary)
  in the accumulator — in particular for IEEE arithmetic as far as rounding is monotone (assumption of the
  harness, not proved here); `sm3_step_le_adagrad` is for any monotone rule too, in an ordered field (it speaks of `|·|`).
* `sm3_cover_exact`, `sm3_acc_nondecreasing_code`, `sm3_step_le_adagrad_code`
  instantiate the code's rule `codeUpd β2 w a g = β2·a + w·g²` in every ordered field.

Momentum (int8-quantized), weight decay, the learning-rate schedule and gradient normalisation act after /
before this recursion and do not enter the accumulators (normalisation only replaces the gradients of
the history); they are covered by the correspondence run only.
-/
import PrecondVerif.Lemmas.SM3
import Mathlib.Analysis.Real.Sqrt

namespace PrecondVerif.C12
open PrecondVerif.SM3

section order
variable {α : Type} [LinearOrder α] [OfNat α 0]

/-- **Cover, arithmetic-agnostic.** For any update rule monotone in the accumulator, after any history the
minimum over the accumulators covering a coordinate — and hence each of them — is at least the value
diagonal AdaGrad/RMSProp with the same rule holds for that coordinate. -/
theorem sm3_cover_monotone (upd : α → α → α) (hmono : ∀ a b g, a ≤ b → upd a g ≤ upd b g)
    (shape : List Nat) (hrank : shape ≠ []) (gs : List (List Nat → α)) (idx : List Nat)
    (hidx : idx ∈ indices shape) :
    adaRun upd gs idx ≤ cover (accRun upd shape gs) idx ∧
      ∀ k, k < shape.length → adaRun upd gs idx ≤ accGet (accRun upd shape gs) k (idx.getD k 0) := by
  have h := cover_run upd hmono shape hrank gs hidx
  refine ⟨h, fun k hk => le_trans h (cover_le ?_)⟩
  rw [length_of_mem_indices hidx]
  exact hk

/-- **Monotonicity.** For an inflationary update rule (`a ≤ upd a g`; the code's rule with `β2 = 1`), on
every state reachable from the zero initial state, no accumulator entry decreases in an update.  (Shapes
without zero-size dimension: `jnp.max` is undefined on empty slices.) -/
theorem sm3_acc_nondecreasing (upd : α → α → α) (hinfl : ∀ a g, a ≤ upd a g) (shape : List Nat)
    (hpos : ∀ d ∈ shape, 0 < d) (gs : List (List Nat → α)) (g : List Nat → α) (i j : Nat)
    (hi : i < shape.length) (hj : j < shape.getD i 0) :
    accGet (accRun upd shape gs) i j ≤ accGet (accRun upd shape (gs ++ [g])) i j := by
  rw [accRun_concat]
  exact accGet_le_accStep_of_tight upd hinfl shape _ (tight_accRun upd shape hpos gs) g hi hj

/-- … and therefore along any continuation of the history. -/
theorem sm3_acc_nondecreasing_history (upd : α → α → α) (hinfl : ∀ a g, a ≤ upd a g)
    (shape : List Nat) (hpos : ∀ d ∈ shape, 0 < d) (gs more : List (List Nat → α)) (i j : Nat)
    (hi : i < shape.length) (hj : j < shape.getD i 0) :
    accGet (accRun upd shape gs) i j ≤ accGet (accRun upd shape (gs ++ more)) i j := by
  induction more using List.reverseRecOn with
  | nil => simp
  | append_singleton more g ih =>
    rw [← List.append_assoc]
    exact le_trans ih (sm3_acc_nondecreasing upd hinfl shape hpos (gs ++ more) g i j hi hj)

/-- **Rank 1.** For a vector the (single) accumulator *is* the diagonal AdaGrad/RMSProp accumulator, for
any update rule whatsoever, and so is the statistic `ν` the next step is preconditioned with (the
code's `grad.ndim == 1` shortcut `acc' = ν` is what the generic max-reduction yields). -/
theorem sm3_rank1_is_adagrad (upd : α → α → α) (d : Nat) (gs : List (List Nat → α)) (j : Nat)
    (hj : j < d) :
    accGet (accRun upd [d] gs) 0 j = adaRun upd gs [j] ∧
      cover (accRun upd [d] gs) [j] = adaRun upd gs [j] ∧
      ∀ g, nuAt upd (accRun upd [d] gs) g [j] = adaRun upd (gs ++ [g]) [j] := by
  have hmain : accGet (accRun upd [d] gs) 0 j = adaRun upd gs [j] := by
    induction gs using List.reverseRecOn with
    | nil => exact accGet_initAccs _ _ _
    | append_singleton gs g ih =>
      rw [accRun_concat, adaRun_concat, accGet_accStep_rank1 upd d _ g hj, nuAt, cover_singleton, ih]
  exact ⟨hmain, by rw [cover_singleton, hmain],
    fun g => by rw [adaRun_concat, nuAt, cover_singleton, hmain]⟩

end order

section field
variable {α : Type} [Field α] [LinearOrder α] [IsStrictOrderedRing α]

/-- **Cover, the code's arithmetic.** With `ν = β2·min + w·g²`, `0 ≤ β2` (any `w`, in particular the
code's `w = 1 - β2`, or `1` when `β2 = 1`), the minimum over a coordinate's accumulators is at least the
exact decayed sum `Σ_t β2^(T-1-t)·w·g_t²` of that coordinate's squared gradients. -/
theorem sm3_cover_exact (β2 w : α) (hβ : 0 ≤ β2) (shape : List Nat) (hrank : shape ≠ [])
    (gs : List (List Nat → α)) (idx : List Nat) (hidx : idx ∈ indices shape) :
    decayedSum β2 w gs idx ≤ cover (accRun (codeUpd β2 w) shape gs) idx := by
  rw [← adaRun_eq_decayedSum]
  exact (sm3_cover_monotone (codeUpd β2 w) (fun a b g h => codeUpd_mono hβ w a b g h) shape hrank gs
    idx hidx).1

/-- **Monotonicity, the code's arithmetic**: decay `β2 = 1` (for which the code takes `w = wOf 1 = 1`). -/
theorem sm3_acc_nondecreasing_code (shape : List Nat) (hpos : ∀ d ∈ shape, 0 < d)
    (gs : List (List Nat → α)) (g : List Nat → α) (i j : Nat) (hi : i < shape.length)
    (hj : j < shape.getD i 0) :
    accGet (accRun (codeUpd (1 : α) (wOf 1)) shape gs) i j
      ≤ accGet (accRun (codeUpd (1 : α) (wOf 1)) shape (gs ++ [g])) i j :=
  sm3_acc_nondecreasing _ (fun a g => codeUpd_infl (wOf_nonneg le_rfl) a g) shape hpos
    gs g i j hi hj

/-- **Step no larger than AdaGrad's.** For any update rule monotone in the accumulator and preserving
non-negativity, and any preconditioner `rsqrt` that is non-negative and antitone on the non-negative
numbers, the pre-momentum SM3 step of every coordinate is no larger in magnitude than the step diagonal
AdaGrad/RMSProp takes for the same history. -/
theorem sm3_step_le_adagrad (upd : α → α → α) (hmono : ∀ a b g, a ≤ b → upd a g ≤ upd b g)
    (hnn : ∀ a g, 0 ≤ a → 0 ≤ upd a g) (rsqrt : α → α)
    (hanti : ∀ x y, 0 ≤ x → x ≤ y → rsqrt y ≤ rsqrt x) (hrs : ∀ x, 0 ≤ x → 0 ≤ rsqrt x)
    (shape : List Nat) (hrank : shape ≠ []) (gs : List (List Nat → α)) (g : List Nat → α)
    (idx : List Nat) (hidx : idx ∈ indices shape) :
    |pgEntry rsqrt (g idx) (nuAt upd (accRun upd shape gs) g idx)|
      ≤ |pgEntry rsqrt (g idx) (adaRun upd (gs ++ [g]) idx)| := by
  have hS : 0 ≤ adaRun upd gs idx := adaRun_induction upd (0 ≤ ·) (le_refl 0) hnn gs idx
  have hS' : 0 ≤ adaRun upd (gs ++ [g]) idx := by
    rw [adaRun_concat]
    exact hnn _ _ hS
  have hle : adaRun upd (gs ++ [g]) idx ≤ nuAt upd (accRun upd shape gs) g idx := by
    rw [adaRun_concat]
    exact hmono _ _ _ (cover_run upd hmono shape hrank gs hidx)
  unfold pgEntry
  rw [abs_mul, abs_mul, abs_of_nonneg (hrs _ (le_trans hS' hle)), abs_of_nonneg (hrs _ hS')]
  exact mul_le_mul_of_nonneg_left (hanti _ _ hS' hle) (abs_nonneg _)

/-- … instantiated with the code: `ν = β2·min + w·g²`, preconditioner `1/sqrt(ν + ε)`, for any square-root
function positive and monotone on the positive numbers (`Real.sqrt`, or a correctly rounded one), `ε > 0`. -/
theorem sm3_step_le_adagrad_code (β2 w eps : α) (hβ : 0 ≤ β2) (hw : 0 ≤ w) (heps : 0 < eps)
    (sqrt : α → α) (hsp : ∀ x, 0 < x → 0 < sqrt x) (hsm : ∀ x y, 0 < x → x ≤ y → sqrt x ≤ sqrt y)
    (shape : List Nat) (hrank : shape ≠ []) (gs : List (List Nat → α)) (g : List Nat → α)
    (idx : List Nat) (hidx : idx ∈ indices shape) :
    |pgEntry (rsqrtCode sqrt eps) (g idx) (nuAt (codeUpd β2 w) (accRun (codeUpd β2 w) shape gs) g idx)|
      ≤ |pgEntry (rsqrtCode sqrt eps) (g idx) (decayedSum β2 w (gs ++ [g]) idx)| := by
  rw [← adaRun_eq_decayedSum]
  refine sm3_step_le_adagrad (codeUpd β2 w) (fun a b g h => codeUpd_mono hβ w a b g h)
    (fun a g ha => codeUpd_nonneg hβ hw ha g) (rsqrtCode sqrt eps) ?_ ?_ shape hrank gs g idx hidx
  · intro x y hx hxy
    unfold rsqrtCode
    have hx' : 0 < x + eps := add_pos_of_nonneg_of_pos hx heps
    exact one_div_le_one_div_of_le (hsp _ hx') (hsm _ _ hx' (add_le_add hxy le_rfl))
  · intro x hx
    unfold rsqrtCode
    exact le_of_lt (one_div_pos.mpr (hsp _ (add_pos_of_nonneg_of_pos hx heps)))

end field

/-- **The full update executes the recursion above.** In `fullStep` (the whole `update_fn` for one tensor,
executed at binary64 by the driver) the new accumulators are `accStep` of the code's rule applied to the
gradient actually used, the statistics tensor is `nuAt` in row-major order and the pre-momentum step is
`pgEntry` of the code's preconditioner: momentum payload, bucket sizes, parameters, learning rate,
`β1` and weight decay do not enter the accumulators, normalisation only replaces the gradient. -/
theorem sm3_full_step_is_accStep {α : Type} [Field α] [LinearOrder α] [Quant.HasFloor α]
    (sqrt : α → α) (h : Hyper α) (shape : List Nat) (accs : Accs α)
    (mq : Array Int) (mb param grad : Array α) :
    let r := fullStep sqrt h shape accs mq mb param grad
    let upd := codeUpd h.beta2 (wOf h.beta2)
    let g := ofFlat 0 shape r.g.toArray
    r.accs = accStep upd shape accs g ∧
      r.nu = (indices shape).map (nuAt upd accs g) ∧
      r.pg = List.zipWith (pgEntry (rsqrtCode sqrt h.eps)) r.g r.nu ∧
      r.g = (if h.normalize then normalizeG sqrt h.normEps grad.toList else grad.toList) :=
  -- every component is a field of `fullStep` as defined; `nu` is the tabulated `nuList` projected to its values
  ⟨rfl, List.map_map .., rfl, rfl⟩

/-! ### non-vacuity -/

/-- the hypotheses of `sm3_cover_monotone` / `sm3_cover_exact` hold for the code's rule (here decay ¾) -/
example : ∀ a b g : ℚ, a ≤ b → codeUpd (3 / 4) (wOf (3 / 4)) a g ≤ codeUpd (3 / 4) (wOf (3 / 4)) b g :=
  fun a b g h => codeUpd_mono (by norm_num) _ a b g h

/-- `[1, 2, 3] ∈ indices [2, 3, 4]`-style membership is decidable and non-trivial -/
example : [1, 2, 3] ∈ indices [2, 3, 4] := by decide

/-- a concrete rank-2 history at the executed scalar type: gradients `[[1,2],[3,4]]` then `[[1,0],[0,1]]`,
decay 1: accumulators `[5,17]`, `[9,17]`; coordinate `(0,1)` has exact sum 4 and cover `min 5 17 = 5`. -/
example :
    accRun (α := ℚ) (codeUpd 1 (wOf 1)) [2, 2]
        [ofFlat 0 [2, 2] #[1, 2, 3, 4], ofFlat 0 [2, 2] #[1, 0, 0, 1]] = [#[5, 17], #[9, 17]] ∧
      decayedSum (1 : ℚ) 1 [ofFlat 0 [2, 2] #[1, 2, 3, 4], ofFlat 0 [2, 2] #[1, 0, 0, 1]] [0, 1] = 4 := by
  decide +kernel

/-- the preconditioner hypotheses of `sm3_step_le_adagrad_code` hold for the real square root -/
example : (∀ x : ℝ, 0 < x → 0 < Real.sqrt x) ∧
    (∀ x y : ℝ, 0 < x → x ≤ y → Real.sqrt x ≤ Real.sqrt y) :=
  ⟨fun _ hx => Real.sqrt_pos.mpr hx, fun _ _ _ hxy => Real.sqrt_le_sqrt hxy⟩

/-- **Reachability matters.** From a state *not* reachable from zero (axis-0 accumulator `[5]`, axis-1
accumulator `[1]` for a `1×1` tensor) an update with zero gradient and decay 1 lowers the first accumulator
to `1`: monotonicity is a property of reachable states, as stated in `sm3_acc_nondecreasing`. -/
theorem sm3_acc_can_decrease_from_unreachable_state :
    accGet (accStep (α := ℚ) (codeUpd 1 1) [1, 1] [#[5], #[1]] (fun _ => 0)) 0 0 = 1 ∧
      accGet (α := ℚ) [#[5], #[1]] 0 0 = 5 := by
  decide +kernel

end PrecondVerif.C12
