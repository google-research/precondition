/-
C17 — Sketchy memory reallocation respects the memory budget.

Model: `Model/Realloc.lean` (`createRedist`, executed by the driver at `Rat`, `Float`, `Float32`).
The multiplication / division / floor of the code is the parameter `alloc`; the scalar type `α`
of the scores is arbitrary.  Statements quantify over every list of axes (any number of layers,
any dimensions, shared or not), every base rank and every score vector.

The surrounding pipeline (second half of the file): `Model/ReallocState.lean` models what surrounds the allocation in
`create_redist_dict` — the traversal of the state tree (`layers_and_axes`, `create_groups`), `score_fn` with its
five rules and the running average, and the nested dict that is returned — executed by the driver as
`pipelineFloat` / `pipelineRat` (ops `pipe_f64`, `pipe_rat`).
-/
import PrecondVerif.Lemmas.ReallocState
import PrecondVerif.Model.Layout
import Mathlib.Algebra.BigOperators.Ring.List

namespace PrecondVerif.C17
open PrecondVerif.Realloc

/-- **Budget and upper bound, for ANY arithmetic** (IEEE double, float32, exact, broken, …) and any
scores (negative, NaN, …): if `create_redist_dict` returns — i.e. its own assertions pass — then
(1) every axis received a rank, (2) the keys of each group are exactly the axes of that dimension,
(3) every rank is at most the dimension, and (4) the ranks of each group of equal dimension sum to at
most group size × base rank. -/
theorem budget_any_arithmetic {κ α : Type} [Add α] [OfNat α 0] [LT α] [DecidableLT α]
    (alloc : α → Int → α → Int) (k : Int) (axes : List (κ × Nat × α))
    (out : List (Nat × List (κ × Int))) (h : createRedist alloc k axes = .ok out) :
    (∀ a ∈ axes, ∃ g ∈ out, g.1 = a.2.1 ∧ a.1 ∈ g.2.map Prod.fst) ∧
    ∀ g ∈ out,
      (g.2.map Prod.fst).Perm ((groupOf axes g.1).map Prod.fst) ∧
      (∀ p ∈ g.2, p.2 ≤ (g.1 : Int)) ∧
      (g.2.map Prod.snd).sum ≤ ((groupOf axes g.1).length : Int) * k := by
  obtain ⟨hfst, hall⟩ := runGroups_ok _ _ _ h
  have hgrp := fun g (hg : g ∈ out) => groupRun_budget alloc k g.1 (groupOf axes g.1) g.2 (hall g hg)
  refine ⟨?_, hgrp⟩
  intro a ha
  have hd : a.2.1 ∈ out.map Prod.fst := by
    rw [hfst]
    exact (mem_dims axes _).mpr ⟨a, ha, rfl⟩
  obtain ⟨g, hg, hga⟩ := List.mem_map.mp hd
  refine ⟨g, hg, hga, ?_⟩
  have := (hgrp g hg).1
  rw [hga] at this
  exact this.mem_iff.mpr (mem_groupOf_keys axes a ha)

/-- The function's `assert realloc[key] <= dim` can never fire, whatever the arithmetic. -/
theorem rank_le_dim_assert_never_fires {κ α : Type} [Add α] [OfNat α 0] [LT α] [DecidableLT α]
    (alloc : α → Int → α → Int) (k : Int) (axes : List (κ × Nat × α)) (r d : Int) :
    createRedist alloc k axes ≠ .error (.rankExceedsDim r d) := by
  intro h
  obtain ⟨d', _, hf⟩ := runGroups_error _ _ _ h
  exact groupRun_ne_rankExceedsDim alloc k d' _ r d hf

/-- **Lower bound, any arithmetic with a non-negative floor**: if the share computation never
returns a negative integer (in floats: `⌊fl(score · fl(R / T))⌋ ≥ 0`) and every dimension is at
least 1, every returned rank is at least 1. -/
theorem rank_ge_one {κ α : Type} [Add α] [OfNat α 0] [LT α] [DecidableLT α]
    (alloc : α → Int → α → Int) (hnn : ∀ s R T, 0 ≤ alloc s R T)
    (k : Int) (axes : List (κ × Nat × α)) (hd : ∀ a ∈ axes, 1 ≤ a.2.1)
    (out : List (Nat × List (κ × Int))) (h : createRedist alloc k axes = .ok out) :
    ∀ g ∈ out, ∀ p ∈ g.2, 1 ≤ p.2 := by
  obtain ⟨hfst, hall⟩ := runGroups_ok _ _ _ h
  intro g hg
  have hmem : g.1 ∈ dims axes := by rw [← hfst]; exact List.mem_map.mpr ⟨g, hg, rfl⟩
  obtain ⟨a, ha, hga⟩ := (mem_dims axes _).mp hmem
  have hd1 : 1 ≤ g.1 := by rw [← hga]; exact hd a ha
  exact groupRun_ge_one_of_nonneg alloc hnn k g.1 hd1 _ g.2 (hall g hg)

/-- **Lower bound and no assertion, for exact arithmetic and every monotone rounding of it**: if
the addition of scores is monotone in the sense of `AddMonotone` (adding non-negatives gives a
non-negative result not smaller than the second summand — every ordered group, and IEEE
round-to-nearest addition), the share computation is sound in the sense of `AllocSound` (a
non-negative score not exceeding the total gets between 0 and the whole resource — `⌊s·(R/T)⌋` does),
scores are non-negative, base rank ≥ 1 and dimensions ≥ 1, then no assertion fires and every rank is
at least 1.  (This is the statement the repair b9b95e4 — suffix sums instead of running subtraction —
makes true beyond exact arithmetic.) -/
theorem bounds_monotone_rounding {κ α : Type} [LE α] [LT α] [DecidableLT α] [Add α] [OfNat α 0]
    (hm : AddMonotone α) (alloc : α → Int → α → Int) (hs : AllocSound alloc) (k : Int) (hk : 1 ≤ k)
    (axes : List (κ × Nat × α)) (hd : ∀ a ∈ axes, 1 ≤ a.2.1) (hnn : ∀ a ∈ axes, (0 : α) ≤ a.2.2) :
    ∃ out, createRedist alloc k axes = .ok out ∧ ∀ g ∈ out, ∀ p ∈ g.2, 1 ≤ p.2 := by
  refine runGroups_all_ok (fun d => groupRun alloc k d (groupOf axes d)) (fun r => ∀ p ∈ r, 1 ≤ p.2)
    (dims axes) ?_
  intro d hdm
  obtain ⟨a, ha, hda⟩ := (mem_dims axes _).mp hdm
  have hd1 : 1 ≤ d := by rw [← hda]; exact hd a ha
  apply groupRun_sound hm alloc hs k hk d hd1
  intro x hx
  obtain ⟨a', ha', _, hsc⟩ := groupOf_scores axes d x hx
  rw [← hsc]; exact hnn a' ha'

/-- **Exact arithmetic**: over any linearly ordered additive group of scores, with a sound share
computation, non-negative scores, base rank ≥ 1 and dimensions ≥ 1: no assertion fires and every
rank is at least 1.  (Together with `budget_any_arithmetic` the result then satisfies the whole
property.) -/
theorem bounds_exact {κ α : Type} [AddCommGroup α] [LinearOrder α] [IsOrderedAddMonoid α]
    (alloc : α → Int → α → Int) (hs : AllocSound alloc) (k : Int) (hk : 1 ≤ k)
    (axes : List (κ × Nat × α)) (hd : ∀ a ∈ axes, 1 ≤ a.2.1) (hnn : ∀ a ∈ axes, (0 : α) ≤ a.2.2) :
    ∃ out, createRedist alloc k axes = .ok out ∧ ∀ g ∈ out, ∀ p ∈ g.2, 1 ≤ p.2 :=
  bounds_monotone_rounding (addMonotone_of_orderedGroup α) alloc hs k hk axes hd hnn

/-- The instance the driver executes at `Rat` (`createRedistRat`, exact `⌊s · (R / T)⌋`):
no assertion fires, every rank is between 1 and the dimension, every group is within budget. -/
theorem bounds_exact_rat (k : Int) (hk : 1 ≤ k) (axes : List (Nat × Nat × Rat))
    (hd : ∀ a ∈ axes, 1 ≤ a.2.1) (hnn : ∀ a ∈ axes, 0 ≤ a.2.2) :
    ∃ out, createRedistRat k axes = .ok out ∧
      ∀ g ∈ out, (∀ p ∈ g.2, 1 ≤ p.2 ∧ p.2 ≤ (g.1 : Int)) ∧
        (g.2.map Prod.snd).sum ≤ ((groupOf axes g.1).length : Int) * k := by
  unfold createRedistRat
  obtain ⟨out, hout, h1⟩ := bounds_exact allocRat allocRat_sound k hk axes hd hnn
  refine ⟨out, hout, ?_⟩
  intro g hg
  obtain ⟨_, hle, hsum⟩ := (budget_any_arithmetic allocRat k axes out hout).2 g hg
  exact ⟨fun p hp => ⟨h1 g hg p hp, hle p hp⟩, hsum⟩

/-! ### Non-vacuity: concrete instances satisfying the hypotheses -/

/-- Two dimensions, shared and unshared, ties and a zero score: the run succeeds. -/
example : createRedistRat 3 [(0, 5, 2), (1, 5, 0), (2, 7, 1), (3, 5, 2), (4, 5, 1 / 3)]
    = .ok [(5, [(0, 4), (3, 5), (4, 2), (1, 1)]), (7, [(2, 3)])] := by decide +kernel

example : ∀ a ∈ [((0 : Nat), (5 : Nat), (2 : Rat)), (1, 5, 0), (2, 7, 1), (3, 5, 2), (4, 5, 1 / 3)],
    1 ≤ a.2.1 ∧ 0 ≤ a.2.2 := by decide +kernel

/-- `bounds_monotone_rounding`/`bounds_exact` hypotheses are satisfiable: `Rat` has monotone addition and
the exact share computation is sound. -/
example : AddMonotone Rat ∧ AllocSound allocRat := ⟨addMonotone_of_orderedGroup ℚ, allocRat_sound⟩

/-- `rank_ge_one`'s hypothesis is satisfiable: a share arithmetic that is never negative. -/
example : ∀ (s : Rat) (R : Int) (T : Rat), 0 ≤ (fun _ R _ => max R 0 : Rat → Int → Rat → Int) s R T :=
  fun _ R _ => le_max_right R 0

/-! ### Negative theorems (regression documentation of the defects found) -/

/-- The UNREPAIRED leftover loop (the code before `/repo` commit 1e4f52c) over-allocates: three axes of
dimension 3, base rank 2, scores (0, 0, 1) receive ranks (2, 2, 3): sum 7 > budget 6. -/
theorem leftover_overallocates_unrepaired :
    createRedistOldRat 2 [(0, 3, 0), (1, 3, 0), (2, 3, 1)] = .ok [(3, [(2, 3), (0, 2), (1, 2)])] ∧
    ((([(2, 3), (0, 2), (1, 2)] : List (Nat × Int)).map Prod.snd).sum > 3 * 2) := by
  decide +kernel

/-- The repaired loop on the same witness stays within the budget (ranks 3, 2, 1; sum 6). -/
theorem leftover_witness_repaired :
    createRedistRat 2 [(0, 3, 0), (1, 3, 0), (2, 3, 1)] = .ok [(3, [(2, 3), (0, 2), (1, 1)])] := by
  decide +kernel

/-- The defect repaired by `/repo` commit b9b95e4.  Before it the total score was kept by running
subtraction.  IEEE running subtraction on the non-negative scores (2^53, 1, 1) (float32: (2^25, 1, 1))
produces the totals 2^53, 0, -1 — the two 1s are absorbed by the initial sum (observed on the real code;
reproduced bit for bit by the `Float`/`Float32` runs of `createRedistRunning`).  With these totals even
the EXACT share computation hands a NEGATIVE rank to the third axis: three axes of dimension 4, base
rank 4 receive (4, 2, -4), and the budget assertion does not notice because the negative rank pays for
the others.  (`AddMonotone` is what the suffix sums of the repaired code restore.) -/
theorem running_total_negative_rank_witness :
    groupRunGen leftover (fun _ _ => [9007199254740992, 0, -1]) allocRat 4 4
      [((0 : Nat), (9007199254740992 : Rat)), (1, 1), (2, 1)] = .ok [(0, 4), (1, 2), (2, -4)] := by
  decide +kernel

/-- The repaired code on the same scores (exact run): every axis gets the full dimension. -/
theorem scale_disparate_witness_repaired :
    createRedistRat 4 [(0, 4, 9007199254740992), (1, 4, 1), (2, 4, 1)]
      = .ok [(4, [(0, 4), (1, 4), (2, 4)])] := by
  decide +kernel

/-! ## The surrounding pipeline: scoring, traversal, returned dictionary, consumption -/

/-- **Scores are non-negative** (and group keys ≥ 1) for every rule of `score_fn` — `tail_rho`, `sketch_trace`,
`sketch_intrinsic_rank`, `ggt_trace`, `ggt_intrinsic_rank`, with or without the running average over several
states — on states whose statistics satisfy the Sketchy invariants (`StatesInv`: `tail ≥ 0`, `eigvals ≥ 0`,
diagonal of `ema_ggt ≥ 0`, value of the external spectral-norm kernel `≥ 0`; dims ≥ 1), in any ordered
field and for either rounding of `jnp.mean`.  The axes come out in the iteration order `order`. -/
theorem scores_nonneg {α : Type} [Field α] [LinearOrder α] [IsStrictOrderedRing α]
    (ofNat : Nat → α) (hof : ∀ n, 0 ≤ ofNat n) (recip : Bool) (rule : Rule) (avg : Bool)
    (states : List (Realloc.Tree α)) (hinv : StatesInv rule states) (order : List Path)
    (n : Nat) (axes : List (Path × Nat × α))
    (ha : axesOf ofNat recip rule avg states order = .ok (n, axes)) :
    axes.map Prod.fst = order ∧ ∀ a ∈ axes, 1 ≤ a.2.1 ∧ 0 ≤ a.2.2 := by
  -- the stages of `axesOf` in order: `states.getLast?`, `sketchesOf`, `layerNames`, the `isPerm` test on `order`,
  -- `sketchesAll` (or the last sketches alone), `axesFor`
  unfold axesOf at ha
  split at ha
  · cases ha
  next lastSt hlast =>
    have hmem : lastSt ∈ states := List.mem_of_getLast? hlast
    split at ha
    · cases ha
    next last hl =>
      split at ha
      · cases ha
      next names hnames =>
        split at ha
        · cases ha
        · split at ha
          · cases ha
          next sks hsks =>
            split at ha
            · cases ha
            next axes' hax =>
              cases ha
              refine axesFor_spec ofNat hof recip rule last (hinv lastSt hmem last hl).2 sks ?_ order axes hax
              intro sk hsk
              by_cases havg : avg = true
              · rw [if_pos havg] at hsks
                obtain ⟨st, hst, h'⟩ := sketchesAll_mapsE.ok_mem hsks sk hsk
                exact (hinv st hst sk h').1
              · rw [if_neg havg] at hsks
                cases hsks
                rw [List.mem_singleton] at hsk
                subst hsk
                exact (hinv lastSt hmem _ hl).1

/-- **End to end** (`create_redist_dict ∘ score_fn`, exact arithmetic): for any tuple of optimizer states
meeting the Sketchy invariants, any rule, base rank ≥ 1 and any sound share computation: whenever the
traversal / scoring half returns axes, the allocation succeeds on them (none of the function's assertions
fires), and whenever the function returns, every score is ≥ 0, every rank is between 1
and the dimension and every group of equal dimension is within `size × base rank`. -/
theorem realloc_pipeline_bounds {α : Type} [Field α] [LinearOrder α] [IsStrictOrderedRing α]
    (alloc : α → Int → α → Int) (hs : AllocSound alloc) (ofNat : Nat → α) (hof : ∀ n, 0 ≤ ofNat n)
    (recip : Bool) (rule : Rule) (avg : Bool) (k : Int) (hk : 1 ≤ k)
    (states : List (Realloc.Tree α)) (hinv : StatesInv rule states) (order : List Path) :
    (∀ n axes, axesOf ofNat recip rule avg states order = .ok (n, axes) →
      ∃ ranks, createRedist alloc k axes = .ok ranks) ∧
    ∀ out, pipeline alloc ofNat recip rule avg k states order = .ok out →
      out.axes.map Prod.fst = order ∧ (∀ a ∈ out.axes, 0 ≤ a.2.2) ∧
      ∀ g ∈ out.ranks, (∀ p ∈ g.2, 1 ≤ p.2 ∧ p.2 ≤ (g.1 : Int)) ∧
        (g.2.map Prod.snd).sum ≤ ((groupOf out.axes g.1).length : Int) * k := by
  have key : ∀ n axes, axesOf ofNat recip rule avg states order = .ok (n, axes) →
      axes.map Prod.fst = order ∧ (∀ a ∈ axes, 0 ≤ a.2.2) ∧
      ∃ ranks, createRedist alloc k axes = .ok ranks ∧
        ∀ g ∈ ranks, (∀ p ∈ g.2, 1 ≤ p.2 ∧ p.2 ≤ (g.1 : Int)) ∧
          (g.2.map Prod.snd).sum ≤ ((groupOf axes g.1).length : Int) * k := by
    intro n axes ha
    obtain ⟨h1, h2⟩ := scores_nonneg ofNat hof recip rule avg states hinv order n axes ha
    obtain ⟨ranks, hr, hge⟩ := bounds_exact alloc hs k hk axes (fun a ha' => (h2 a ha').1) (fun a ha' => (h2 a ha').2)
    refine ⟨h1, fun a ha' => (h2 a ha').2, ranks, hr, ?_⟩
    intro g hg
    obtain ⟨_, hle, hsum⟩ := (budget_any_arithmetic alloc k axes ranks hr).2 g hg
    exact ⟨fun p hp => ⟨hge g hg p hp, hle p hp⟩, hsum⟩
  constructor
  · intro n axes ha
    obtain ⟨_, _, ranks, hr, _⟩ := key n axes ha
    exact ⟨ranks, hr⟩
  · intro out ho
    unfold pipeline at ho
    split at ho
    · cases ho
    next n axes ha =>
      obtain ⟨h1, h2, ranks, hr, h3⟩ := key n axes ha
      simp only [hr] at ho
      split at ho
      · cases ho
      · cases ho
        exact ⟨h1, h2, h3⟩

/-- The instance the driver executes at `Rat` (`pipelineRat`, op `pipe_rat`). -/
theorem realloc_pipeline_bounds_rat (recip : Bool) (rule : Rule) (avg : Bool) (k : Int) (hk : 1 ≤ k)
    (states : List (Realloc.Tree Rat)) (hinv : StatesInv rule states) (order : List Path) :
    (∀ n axes, axesOf ratOfNat recip rule avg states order = .ok (n, axes) →
      ∃ ranks, createRedist allocRat k axes = .ok ranks) ∧
    ∀ out, pipelineRat recip rule avg k states order = .ok out →
      out.axes.map Prod.fst = order ∧ (∀ a ∈ out.axes, 0 ≤ a.2.2) ∧
      ∀ g ∈ out.ranks, (∀ p ∈ g.2, 1 ≤ p.2 ∧ p.2 ≤ (g.1 : Int)) ∧
        (g.2.map Prod.snd).sum ≤ ((groupOf out.axes g.1).length : Int) * k := by
  unfold pipelineRat
  exact realloc_pipeline_bounds allocRat allocRat_sound ratOfNat (fun n => Nat.cast_nonneg n) recip rule avg k hk
    states hinv order

/-- **The returned dictionary is total and has no stray entries** (any arithmetic).  If the allocation and
the construction of the nested dict succeed then (1) every axis of the input — every layer name
`…/<x>/<i>` found by the traversal — has exactly one rank `r` in the allocation and slot `i` of the row stored
at its own directory `…` holds `r`; (2) every allocated rank is found at its slot; (3) every row has
`num_axes` slots and sits at the directory of some axis of the input (nothing is created for unsketched
leaves); (4) every slot holds 0 or the rank of the axis it belongs to. -/
theorem redist_dict_total {α : Type} [Add α] [OfNat α 0] [LT α] [DecidableLT α]
    (alloc : α → Int → α → Int) (k : Int) (n : Nat) (axes : List (Path × Nat × α))
    (out : List (Nat × List (Path × Int))) (hout : createRedist alloc k axes = .ok out)
    (m : PathMap) (hm : buildMap n (axes.map Prod.fst) out = .ok m) :
    (∀ a ∈ axes, ∃ i r, axisId a.1 = some i ∧ (a.1, r) ∈ flatRanks out ∧
      (∀ r', (a.1, r') ∈ flatRanks out → r' = r) ∧ getSlot m (layerDir a.1) i = some r) ∧
    (∀ w ∈ flatRanks out, ∃ i, axisId w.1 = some i ∧ getSlot m (layerDir w.1) i = some w.2) ∧
    (∀ d row, lookupRow d m = some row → row.length = n ∧ ∃ a ∈ axes, layerDir a.1 = d) ∧
    (∀ d j v, getSlot m d j = some v →
      v = 0 ∨ ∃ w ∈ flatRanks out, w.2 = v ∧ layerDir w.1 = d ∧ axisId w.1 = some j) := by
  obtain ⟨hw, hrows, hvals⟩ := buildMap_spec n _ out m hm
  refine ⟨fun a ha => ?_, hw, fun d row hrow => ?_, hvals⟩
  · obtain ⟨g, hg, _, hmem⟩ := (budget_any_arithmetic alloc k axes out hout).1 a ha
    obtain ⟨p, hp, hpa⟩ := List.mem_map.mp hmem
    have hfl : p ∈ flatRanks out := List.mem_flatMap.mpr ⟨g, hg, hp⟩
    obtain ⟨i, hi, hs⟩ := hw p hfl
    refine ⟨i, p.2, hpa ▸ hi, hpa ▸ hfl, fun r' hr' => ?_, hpa ▸ hs⟩
    -- two ranks of the same axis are read back from the same slot
    obtain ⟨i', hi', hs'⟩ := hw (a.1, r') hr'
    rw [← hpa, hi] at hi'
    cases hi'
    rw [← hpa, hs] at hs'
    exact (Option.some.inj hs').symm
  · obtain ⟨hl, name, hname, e⟩ := hrows d row hrow
    obtain ⟨a, ha, hna⟩ := List.mem_map.mp hname
    exact ⟨hl, a, ha, hna ▸ e⟩

/-- **Consumption side, in memory units** (any arithmetic).  `tearfree/sketchy.py` gives an axis of dimension
`d` a sketch of rank `min(d, memory_alloc[path][axis])` (C07: `Layout.sketchAxis`), and `min(d, options.rank)`
without `memory_alloc`; the sketch basis of a rank-`r` axis is a `d × r` matrix.  Within every group of
equal dimension `d` the reallocated ranks need `Σ d·rankᵢ ≤ size · d · min(d, base rank)` entries — never more
than the uniform allocation they replace.  (When `base rank > d` the code's own budget `size × base rank` is
larger than anything the uniform allocation could use; the bound by `size × d` then comes from `rank ≤ d`.) -/
theorem realloc_memory_le_uniform {κ α : Type} [Add α] [OfNat α 0] [LT α] [DecidableLT α]
    (alloc : α → Int → α → Int) (k : Int) (axes : List (κ × Nat × α))
    (out : List (Nat × List (κ × Int))) (h : createRedist alloc k axes = .ok out) :
    ∀ g ∈ out, (g.2.map (fun p => (g.1 : Int) * p.2)).sum
      ≤ ((groupOf axes g.1).length : Int) * ((g.1 : Int) * min (g.1 : Int) k) := by
  intro g hg
  obtain ⟨hperm, hle, hsum⟩ := (budget_any_arithmetic alloc k axes out h).2 g hg
  have hlen : g.2.length = (groupOf axes g.1).length := by simpa using hperm.length_eq
  have hsum' : (g.2.map Prod.snd).sum ≤ ((groupOf axes g.1).length : Int) * (g.1 : Int) := by
    have := List.sum_le_card_nsmul (g.2.map Prod.snd) (g.1 : Int) (List.forall_mem_map.mpr hle)
    simpa [hlen] using this
  have hmin : (g.2.map Prod.snd).sum ≤ ((groupOf axes g.1).length : Int) * min (g.1 : Int) k := by
    rcases le_total (g.1 : Int) k with hc | hc
    · rw [min_eq_left hc]; exact hsum'
    · rw [min_eq_right hc]; exact hsum
  calc (g.2.map (fun p => (g.1 : Int) * p.2)).sum
      = (g.1 : Int) * (g.2.map Prod.snd).sum := List.sum_map_mul_left _ _ _
    _ ≤ (g.1 : Int) * (((groupOf axes g.1).length : Int) * min (g.1 : Int) k) :=
        mul_le_mul_of_nonneg_left hmin (Int.natCast_nonneg _)
    _ = ((groupOf axes g.1).length : Int) * ((g.1 : Int) * min (g.1 : Int) k) := by ring

/-- Link to the C07 layout model: for a reallocated rank `1 ≤ r ≤ d` the Sketchy axis state that
`sketchy._init` builds from `memory_alloc` has basis `d × r`, eigenvalues `r`, inverse eigenvalues `r` — the
clamp `min(d, ·)` of the consumer is the identity on C17's output, so `d · r` above is the real size. -/
theorem realloc_rank_is_layout_rank (cfg : Layout.TFSketchy) (shape : List Nat) (d : Nat) (r : Int)
    (h1 : 1 ≤ r) (hd : r ≤ (d : Int)) :
    (Layout.sketchAxis cfg shape d r.toNat).take 3 =
      [some (Layout.f32Leaf [d, r.toNat]), some (Layout.f32Leaf [r.toNat]), some (Layout.f32Leaf [r.toNat])] := by
  have : min d r.toNat = r.toNat := Nat.min_eq_right (by omega)
  rw [Layout.sketchAxis, this]
  rfl


/-! ### Non-vacuity of the pipeline theorems -/

/-- An executed instance: two states, running average, `sketch_intrinsic_rank` (the second axis has an all-zero
spectrum in both states: score 0 through the `if jnp.sum(x) else 0` guard), one axis grouped through its `dim`
field and one through `eigvecs.shape[0]`; both land in the row of their layer directory `enc/w`. -/
example : pipelineRat true .sketchIntrinsicRank true 3
    [.dict [("inner_state", .dict [("0", .dict [("direction", .dict [("1", .dict [("sketches",
      .dict [("enc", .dict [("w", .dict [("axes", .dict [
        ("0", .dict [("eigvecs", .leaf (.shape [5, 3])), ("eigvals", .leaf (.vec [1, 2, 3]))]),
        ("1", .dict [("dim", .leaf (.int 5)), ("eigvals", .leaf (.vec [0, 0, 0]))])])])])])])])])])]]
    [["enc", "w", "axes", "1"], ["enc", "w", "axes", "0"]]
  = .ok ⟨2, [(["enc", "w", "axes", "1"], 5, 0), (["enc", "w", "axes", "0"], 5, 2)],
      [(5, [(["enc", "w", "axes", "0"], 5), (["enc", "w", "axes", "1"], 1)])], [(["enc", "w"], [5, 1])]⟩ := by
  decide +kernel

/-- `StatesInv`'s leaf invariants are satisfiable by non-trivial statistics. -/
example : LeafInv (.vec [1, 2, 0] : Leaf Rat) ∧ LeafInv (.scalar (1 / 2) : Leaf Rat) ∧
    LeafInv (.mat [[2, -1], [-1, 3]] 4 : Leaf Rat) := by
  simp [LeafInv, diagFrom]

/-- `realloc_pipeline_bounds`' arithmetic hypotheses hold for the instance the driver runs. -/
example : AllocSound allocRat ∧ ∀ n, (0 : Rat) ≤ ratOfNat n := ⟨allocRat_sound, fun n => Nat.cast_nonneg n⟩

/-! ### Negative theorem for the pipeline -/

/-- The state invariant is needed: `tail_rho` passes the stored `tail` through, so a state violating `tail ≥ 0`
(the defect class C09 guards against) yields a negative score, and scores (-3, 1, 1) for three axes of dimension
8 with base rank 3 make the exact allocation hand out the ranks (-4, -4, 8) — no assertion notices. -/
theorem negative_tail_breaks_lower_bound :
    opVal .tailRho (.scalar (-3 : Rat)) = some (-3) ∧
    createRedistRat 3 [(0, 8, -3), (1, 8, 1), (2, 8, 1)] = .ok [(8, [(1, -4), (2, -4), (0, 8)])] := by
  decide +kernel

end PrecondVerif.C17
