/-
C07 — state contract: shapes preserved, layout stable, every accepted configuration runs.

All theorems are about the definitions of `Model/Layout.lean` that `drv_c07` executes, for every
configuration in the modelled option space and every list of parameter shapes (any number of
parameters, any ranks and dimensions), and any number of updates.

Decided on executed inputs only: exception *messages*; values; that the hand-written model is the code
(differential correspondence run of the harness).
-/
import PrecondVerif.Lemmas.Layout

namespace PrecondVerif.C07
open PrecondVerif.Shapes PrecondVerif.Layout

/-- the update tree has the parameters' shapes (one float32 leaf per parameter) -/
theorem update_shapes_eq_params (c : Cfg) (ps : List (List Nat)) :
    (updateShapes c ps).map (·.shape) = ps ∧ ∀ l ∈ updateShapes c ps, l.dt = .f32 := by
  constructor
  · simp [updateShapes, f32Leaf, List.map_map, Function.comp_def]
  · exact List.forall_mem_map.mpr fun _ _ => rfl

/-- an accepted configuration's initial layout is `initLayout` -/
theorem layoutInit_ok (c : Cfg) (ps : List (List Nat)) (L : DSLayout) (h : layoutInit c ps = .ok L) :
    L = initLayout c ps := by
  obtain ⟨_, _, h⟩ := bind_ok.mp h
  exact (Except.ok.inj h).symm

/-- **Layout is a fixed point of update.** If the constructor accepts the configuration, one update of
the initial layout either returns exactly the initial layout, or is an explanatory rejection raised
while the roots are traced (`all layers are too small for compression_rank` / the LOBPCG size check) —
never a changed layout. Every `lax.cond` / `while_loop` type check of the update passes. -/
theorem layout_fixpoint (c : Cfg) (ps : List (List Nat)) (L : DSLayout) (h : layoutInit c ps = .ok L) :
    layoutStep c ps L = .ok L ∨ ∃ cls, layoutStep c ps L = .error (.reject .update cls) := by
  rw [layoutInit_ok c ps L h]
  cases hr : stepRejects c ps with
  | none => exact .inl (layoutStep_init_accept c ps hr)
  | some e =>
    obtain ⟨cls, rfl⟩ := stepRejects_some c ps e hr
    exact .inr ⟨cls, layoutStep_init_reject c ps _ hr⟩

/-- ... hence after any number of updates (induction over the history) -/
theorem layout_fixpoint_steps (c : Cfg) (ps : List (List Nat)) (L : DSLayout) (k : Nat)
    (h : layoutInit c ps = .ok L) (hacc : stepRejects c ps = none) :
    layoutSteps c ps k L = .ok L := by
  rw [layoutInit_ok c ps L h]
  exact layoutSteps_init c ps hacc k

/-- **No internal error**: constructor, `init` and any number of updates of Distributed Shampoo
(replicated / pmap mode) end in success or in an explanatory rejection, for every configuration and
every parameter tree. -/
theorem no_internal_error (c : Cfg) (ps : List (List Nat)) (k : Nat) (e : Err)
    (h : dsRun c ps k = .error e) : e.isInternal = false := by
  rcases bind_error.mp h with hi | ⟨L, hi, h⟩
  · rcases bind_error.mp hi with hv | ⟨_, _, hi⟩
    · rw [validate_error c e hv]
      rfl
    · cases hi
  · rw [layoutInit_ok c ps L hi] at h
    cases k with
    | zero => cases h
    | succ k =>
      cases hr : stepRejects c ps with
      | none => rw [layoutSteps_init c ps hr] at h; cases h
      | some e' =>
        rw [layoutSteps, layoutStep_init_reject c ps e' hr, error_bind] at h
        cases h
        obtain ⟨cls, rfl⟩ := stepRejects_some c ps _ hr
        rfl

/-- the constructor's rejections are explanatory -/
theorem validate_rejects_explicitly (c : Cfg) (e : Err) (h : validate c = .error e) :
    e = .reject .construct .valueError :=
  validate_error c e h

/-- **Sharded declarations are consistent**: whenever `sharded_init_fn` succeeds,
`sharded_init_shape_and_dtype_fn` succeeds and declares exactly the initial state's tree (structure,
static fields, every leaf's shape and dtype), and `sharded_init_partition_spec_fn` has the same tree
structure — for parameter dimensions ≥ 1 and one partition spec per parameter, of ANY length
(`P()`, `P(None)`, one entry per dimension). -/
theorem sharded_decl_consistent (c : Cfg) (ps : List (List Nat)) (pspecs : List (List String))
    (statSpec : List String) (L : ShardedLayout)
    (hdims : dimsPos ps) (hspec : specsFit ps pspecs)
    (h : shardedInit c ps = .ok L) :
    shapeDtypeDecl c ps = .ok (shardedSig L) ∧
    skeleton (pspecDecl c ps pspecs statSpec) = skeleton (shardedSig L) :=
  ⟨shardedInit_decl c ps L hdims h, pspecDecl_skeleton c ps pspecs statSpec L hspec h⟩

/-- sharded mode without a device count is rejected by the constructor (D23) -/
theorem sharded_requires_devices (c : Cfg) (hs : c.shard = true) (hn : c.ndev < 1) :
    validate c = .error (.reject .construct .valueError) := by
  cases h : validate c with
  | error e => rw [validate_error c e h]
  | ok u => exact absurd (validate_ok_ndev c h hs) (by omega)

/-- sharded `init` never fails internally -/
theorem sharded_init_no_internal_error (c : Cfg) (ps : List (List Nat)) (e : Err)
    (h : shardedInit c ps = .error e) : e.isInternal = false := by
  rcases bind_error.mp h with hv | ⟨_, _, h⟩
  · rw [validate_error c e hv]
    rfl
  · rw [guard_error (fun _ h => by cases h) e h]
    rfl

/-- **Sharded layout is a fixed point of update** (`sharded_update_fn`, `shard_optimizer_states=True`,
with or without `batch_axis_name`): explanatory rejection (LOBPCG size check) or exactly the initial
sharded layout — global stacked statistics / preconditioners keep their padded shapes, local entries
their layout. -/
theorem sharded_layout_fixpoint (c : Cfg) (ps : List (List Nat)) (L : ShardedLayout)
    (hs : c.shard = true) (hdims : dimsPos ps) (h : shardedInit c ps = .ok L) :
    shardedStep c ps L = .ok L ∨ ∃ cls, shardedStep c ps L = .error (.reject .update cls) := by
  have hq : c.quant2 = false := by simp [Cfg.quant2, hs]
  cases hr : rootReject c (globalDims c ps).2 .update with
  | none => exact .inl (shardedStep_init_accept c ps L hq hdims h hr)
  | some e =>
    obtain ⟨cls, rfl⟩ := rootReject_some _ _ _ e hr
    exact .inr ⟨cls, shardedStep_init_reject c ps L _ h hr⟩

/-- ... hence after any number of sharded updates (induction over the history): either the first
update is rejected explicitly, or every later state has the initial layout -/
theorem sharded_layout_fixpoint_steps (c : Cfg) (ps : List (List Nat)) (L : ShardedLayout) (k : Nat)
    (hs : c.shard = true) (hdims : dimsPos ps) (h : shardedInit c ps = .ok L)
    (hacc : rootReject c (globalDims c ps).2 .update = none) :
    shardedSteps c ps k L = .ok L :=
  shardedSteps_init c ps L (by simp [Cfg.quant2, hs]) hdims h hacc k

/-- SM3: rank-0 parameters are rejected explicitly, otherwise the layout is a fixed point of update -/
theorem sm3_layout_fixpoint (ps : List (List Nat)) :
    (∀ L, sm3Init ps = .ok L → sm3Step ps L = .ok L) ∧
    (∀ e, sm3Init ps = .error e → e = .reject .init .valueError) := by
  refine ⟨fun L h => ?_, guard_error fun _ h => by cases h⟩
  obtain ⟨_, h⟩ := guard_ok h
  cases h
  exact sm3Step_init ps

/-- Tearfree (Shampoo and Sketchy incl. per-axis ranks from `memory_alloc`, every grafting / momentum
option): the state layout after an update is the initial one -/
theorem tearfree_layout_fixpoint (c : TFCfg) (ps : List (List Nat)) (L : TFLayout)
    (h : tfInit c ps = .ok L) : tfStep c L = .ok L :=
  tfStep_init c ps L h

/-- ... and after any number of updates (induction over the history) -/
theorem tearfree_layout_fixpoint_steps (c : TFCfg) (ps : List (List Nat)) (L : TFLayout) (k : Nat)
    (h : tfInit c ps = .ok L) : tfSteps c k L = .ok L :=
  tfSteps_init c ps L h k

/-- **Tearfree: no internal error.** For every option set of the modelled space and every tree,
constructor + `init` + `k` updates end in success or in an explanatory rejection: a `ValueError` of
the option validation at construction, or of `shampoo.make_blocks` at `init` (more than two large
dimensions); an update never fails. -/
theorem tearfree_no_internal_error (c : TFCfg) (ps : List (List Nat)) (k : Nat) (e : Err)
    (h : tfRun c ps k = .error e) :
    e = .reject .construct .valueError ∨ e = .reject .init .valueError := by
  rcases bind_error.mp h with hi | ⟨L, hi, h⟩
  · rcases bind_error.mp hi with hv | ⟨_, hv, hi⟩
    · exact .inl (tfValidate_error c _ hv)
    · rcases bind_error.mp hi with hm | ⟨_, _, hi⟩
      · obtain ⟨x, _, hx⟩ := (mapE_mapsE _).error hm
        exact .inr (tfParam_error c x _ (tfValidate_sk c hv) hx)
      · cases hi
  · rw [tfSteps_init c ps L hi k] at h
    cases h

/-! ### non-vacuity -/

def exCfg : Cfg :=
  { blockSize := 8, bestEffortShape := true, mergeBlock := 4096, graftHasDiag := true, batchAxis := false,
    shard := false, ndev := 2, memReduction := true, skipDimGt := 4096, skipRankLt := 1, lobpcgTopk := 0,
    ptype := .input, fdMetrics := true, trainMetrics := true, compRank := 2, fd := true, reset := false,
    avgGrad := true, reuse := true, eigh := false, statSteps := 2, precondSteps := 2, scheduled := false }

/-- a frequent-directions configuration with compression that is accepted and not rejected at update time -/
example : validate exCfg = .ok () ∧ stepRejects exCfg [[6, 5], [7], []] = none := ⟨rfl, by decide⟩

/-- ... and one that is accepted by the constructor but rejected (explicitly) at the first update -/
example : validate exCfg = .ok () ∧
    stepRejects exCfg [[2, 2]] = some (.reject .update .assertionError) := ⟨rfl, by decide⟩

example : specsFit [[3, 4], [5]] [[], [""]] := by simp [specsFit]

example : dimsPos [[6, 5], [7], []] := by
  unfold dimsPos
  decide

/-- a sharded configuration with `batch_axis_name` and quantized momenta that is accepted (D22) -/
def exSharded : Cfg :=
  { exCfg with shard := true, batchAxis := true, fd := false, avgGrad := false, fdMetrics := false, compRank := 0 }

example : ∃ L, shardedInit exSharded [[6, 5], [7]] = .ok L := ⟨_, rfl⟩

def exTF : TFCfg :=
  { graft := .rmsprop, graftDecay := 1, graftEps := 0, skipGt := 4096, skipRank1 := true, minDimFactor := 128,
    clipThreshold := 1, mergeDims := 2, sketchy := true, sh := none,
    sk := some { rank := 2, updateFreq := 1, decay := 1, addGgt := true, ekfac := true,
                 alloc := some [[3, 1], [1], [2, 2, 2]] },
    momDecay := 1, ema := false, wd := 0, wdAfter := true, lrSched := false }

/-- an accepted Sketchy configuration with `memory_alloc` rows, on a tree with a masked vector -/
example : (tfInit exTF [[4, 3], [5], [2, 3, 2]]).toOption.isSome = true := by decide

/-! ### negative witnesses (regression documentation of repaired defects) -/

/-- D3: had `_compute_stats` returned a `MaskedNode` for `avg_grad` (as the unrepaired code did for
skipped parameters), the next update of a preconditioned parameter would fail its type check -/
theorem d3_masked_avg_grad_breaks_update :
    computeStats exCfg [6, 5] { initParam exCfg [6, 5] with ag := none } =
      .error (.internal .update "avg_grad is a MaskedNode") := by rfl

/-- D6: a declaration with a float32 `count` is not the initial state's signature -/
theorem d6_count_dtype_matters :
    leafSig countLeaf ≠ Sig.leaf [] "float32" := by
  simp [leafSig, countLeaf, DT.name]

end PrecondVerif.C07
