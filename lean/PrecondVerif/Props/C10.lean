/-
C10 — the low-rank packed preconditioner agrees with the dense matrix it denotes.

Model: `Model/LowRank.lean` (`fdPack`/`fdUnpack`/`lowRankPack`/`lowRankUnpack` with the code's literal slot
indices, `applyPacked` = compressed branch of `_precondition_block`, `blockLoop` = its loop over the axes of a
gradient block of any tensor rank, `lowRankRoot` = `_low_rank_root` after `eigh`), executed by `drv_c10` at `Rat`
and `Float`; `Shapes.precondDim` / `Shapes.shouldCompress` = `_precond_dim` / `_should_compress` (argument `|rank|`).
Statements hold for every size `d`, rank `r`, number of trailing elements `n`, tensor rank, axis pattern and every
scalar type that is a commutative ring (field for the root), in particular ℚ (the driver's `Rat` run) and ℝ.
`eigh` and the real power `x ↦ x^(-1/p)` are parameters; only `U Uᵀ = 1` is used of `eigh`.
-/
import PrecondVerif.Lemmas.LowRank

namespace PrecondVerif.C10
open PrecondVerif.LowRank PrecondVerif.Shapes Matrix

/-- **unpack ∘ pack = id** for all `d, r` with `r + 2 < d` (this inequality is exactly slot disjointness): all six
fields of `_fd_low_rank_pack` are read back by `_fd_low_rank_unpack`. -/
theorem unpack_pack {α : Type} [Zero α] [One α] [BEq α] [LawfulBEq α] (h10 : (1 : α) ≠ 0)
    {d r : Nat} (h : r + 2 < d) (F : Fields α d r) : fdUnpack h (fdPack F) = F :=
  fdUnpack_fdPack h10 h F

/-- the same for `_low_rank_pack` / `_low_rank_unpack`: the flag comes back `False`. -/
theorem lowrank_unpack_pack {α : Type} [Zero α] [One α] [BEq α] [LawfulBEq α] (h10 : (1 : α) ≠ 0)
    {d r : Nat} (h : r + 2 < d) (V : Mat α d r) (e : Vec α r) (c : α) :
    lowRankUnpack h (lowRankPack V e c) = { eigvecs := V, invEigvals := e, const := c, hasZeros := false } := by
  simp only [lowRankUnpack, lowRankPack, fdUnpack_fdPack h10 h]

/-- **pack ∘ unpack = id** on matrices whose unused slots are zero (rows `r .. d-2` of column `-2`, rows
`2 .. d-r-1` of column `-1`) and whose `has_zeros` slot holds 0 or 1. -/
theorem pack_unpack {α : Type} [Zero α] [One α] [BEq α] [LawfulBEq α] {d r : Nat} (h : r + 2 < d)
    (P : Mat α d (r + 2))
    (hInv : ∀ i : Fin d, r ≤ i.val → i.val < d - 1 → P i ⟨(r + 2) - 2, by omega⟩ = 0)
    (hLast : ∀ i : Fin d, 2 ≤ i.val → i.val < d - r → P i ⟨(r + 2) - 1, by omega⟩ = 0)
    (hFlag : P ⟨d - 1, by omega⟩ ⟨(r + 2) - 2, by omega⟩ = 0 ∨ P ⟨d - 1, by omega⟩ ⟨(r + 2) - 2, by omega⟩ = 1) :
    fdPack (fdUnpack h P) = P := by
  funext i j
  have hrd : r + 1 < d := Nat.lt_of_succ_lt h
  rcases Nat.lt_or_ge j.val r with hj | hj
  · rw [fdPack_eigvecs _ i j hj]
    rfl
  rcases (show j.val = r ∨ j.val = r + 1 by have := j.isLt; omega) with hj | hj
  · rcases Nat.lt_or_ge i.val r with hi | hi
    · rw [fdPack_invEigvals _ i j hi hrd hj]
      exact P.congr_idx rfl hj.symm
    by_cases hi' : i.val = d - 1
    · rw [fdPack_flag _ i j hi' hj]
      exact (flag_roundtrip _ hFlag).trans (P.congr_idx hi'.symm hj.symm)
    · have hi2 : i.val < d - 1 := by have := i.isLt; omega
      rw [fdPack_invCol_unused _ i j hi hi2 hj]
      exact (hInv i hi hi2).symm.trans (P.congr_idx rfl hj.symm)
  · by_cases h0 : i.val = 0
    · rw [fdPack_const _ i j h0 (Nat.lt_of_succ_lt hrd) hj]
      exact P.congr_idx h0.symm hj.symm
    by_cases h1 : i.val = 1
    · rw [fdPack_tail _ i j h1 hrd hj]
      exact P.congr_idx h1.symm hj.symm
    rcases Nat.lt_or_ge i.val (d - r) with h2 | h2
    · have hi2 : 2 ≤ i.val := by omega
      rw [fdPack_lastCol_unused _ i j hi2 h2 hj]
      exact (hLast i hi2 h2).symm.trans (P.congr_idx rfl hj.symm)
    · rw [fdPack_eigvals _ i j h2 hj]
      exact P.congr_idx (Nat.add_sub_cancel' h2) hj.symm

/-- **negative**: without `r + 2 < d` the slots overlap.  For `d = 2, r = 1` the `tail` slot `[1, -1]` is
overwritten by the `eigvals` slot `[-r:, -1]` (row `d - r = 1`): two field sets that differ in `tail` pack to the
same matrix, so no unpack can invert the packing (the code's asserts reject such sizes). -/
theorem pack_not_injective_when_too_small :
    fdPack (α := Int) (d := 2) (r := 1) ⟨fun _ _ => 0, fun _ => 5, fun _ => 0, 0, 7, false⟩ =
    fdPack (α := Int) (d := 2) (r := 1) ⟨fun _ _ => 0, fun _ => 5, fun _ => 0, 0, 8, false⟩ := by
  funext i j
  revert i j
  decide

/-- `_precond_dim` and `_should_compress` agree: when compressing, the storage dimension is `r + 2 < d`;
otherwise it is `d` (dense). -/
theorem precondDim_consistent_with_shouldCompress (r d : Nat) :
    (shouldCompress r d = true → precondDim r d = r + 2 ∧ r + 2 < d) ∧
    (shouldCompress r d = false → precondDim r d = d) := by
  obtain ⟨hlt, hfalse, htrue⟩ := Shapes.precondDim_consistent r d
  exact ⟨fun h => ⟨htrue h, htrue h ▸ hlt.mp h⟩, hfalse⟩

/-- the test `_precondition_block` uses (`application_dim != dim`) selects the compressed branch exactly when
`_should_compress` holds. -/
theorem compressed_branch_iff_shouldCompress (r d : Nat) :
    precondDim r d ≠ d ↔ shouldCompress r d = true := by
  obtain ⟨hlt, hfalse, _⟩ := Shapes.precondDim_consistent r d
  exact ⟨fun hne => by_contra fun hs => hne (hfalse (by simpa using hs)), fun hs => (hlt.mp hs).ne⟩

/-- the dense matrix a packed preconditioner denotes is `c (I − V Vᵀ) + V diag(e) Vᵀ` (Mathlib's matrix operations) -/
theorem denote_is_documented_matrix {α : Type} [CommRing α] {d r : Nat} (V : Mat α d r) (e : Vec α r) (c : α) :
    toM (denote V e c) = c • (1 - toM V * (toM V)ᵀ) + toM V * Matrix.diagonal e * (toM V)ᵀ :=
  denote_eq V e c

/-- **one axis**: the compressed branch on the `(d, n)` view of a block (any number `n` of trailing elements, i.e.
any tensor rank) equals the dense branch `tensordot(g, M, [[0],[0]])` with `M` the denoted matrix — for ANY `V, e, c`
(no orthogonality needed) — and is the bare roll of the axes when the preconditioner is flagged. -/
theorem apply_packed_eq_dense {α : Type} [CommRing α] {d r n : Nat} (V : Mat α d r) (e : Vec α r) (c : α)
    (G : Mat α d n) :
    applyPacked V e c false G = applyDense (denote V e c) G ∧
    applyPacked V e c true G = G.transpose ∧
    toM (applyPacked V e c false G) = (toM G)ᵀ * (c • (1 - toM V * (toM V)ᵀ) + toM V * Matrix.diagonal e * (toM V)ᵀ) := by
  refine ⟨applyPacked_eq_applyDense V e c G, applyPacked_skip V e c G, ?_⟩
  rw [applyPacked_eq_applyDense, applyDense_eq, denote_eq]

/-- **every tensor rank, every axis pattern**: `_precondition_block` with packed preconditioners on any subset of
the axes (others dense or skipped) computes the same block as the same loop in which every packed preconditioner is
replaced by the dense matrix it denotes (identity when flagged). -/
theorem precondition_block_eq_denoted {α : Type} [CommRing α] [BEq α] (ops : List (AxisOp α)) (shape : List Nat)
    (a : Array α) : preconditionBlock ops shape a = preconditionBlockDenoted ops shape a := by
  unfold preconditionBlock preconditionBlockDenoted
  rw [stepPacked_eq_stepDenoted]

/-- matrix gradient, packed preconditioner on axis 0: the block becomes `Mᵀ G` (`G` when flagged). -/
theorem precondition_matrix_axis0 {α : Type} [CommRing α] [BEq α] {m n r : Nat} (h : r + 2 < m) (P : Nat → Nat → α)
    (G : Mat α m n) :
    preconditionBlock [.packed r P, .roll] [m, n] (flat G) =
      flat (m := m) (n := n) (if (lowRankUnpack h (ofIdx m (r + 2) P)).hasZeros then G
        else ((toM (denoteP h (ofIdx m (r + 2) P)))ᵀ * toM G)) := by
  rw [precondition_block_eq_denoted, preconditionBlockDenoted, blockLoop_matrix, stepDenoted_roll, stepDenoted_packed h]
  refine congrArg (fun M : Mat α m n => flat M)
    ((apply_ite Mat.transpose ..).trans (ite_congr rfl (fun _ => Mat.transpose_transpose G) fun _ => ?_))
  apply eq_of_toM_eq
  rw [toM_transpose, applyDense_eq, Matrix.transpose_mul, Matrix.transpose_transpose, denoteP_eq]

/-- matrix gradient, packed preconditioner on axis 1: the block becomes `G M` (`G` when flagged). -/
theorem precondition_matrix_axis1 {α : Type} [CommRing α] [BEq α] {m n r : Nat} (h : r + 2 < n) (P : Nat → Nat → α)
    (G : Mat α m n) :
    preconditionBlock [.roll, .packed r P] [m, n] (flat G) =
      flat (m := m) (n := n) (if (lowRankUnpack h (ofIdx n (r + 2) P)).hasZeros then G
        else (toM G * toM (denoteP h (ofIdx n (r + 2) P)))) := by
  rw [precondition_block_eq_denoted, preconditionBlockDenoted, blockLoop_matrix, stepDenoted_roll, stepDenoted_packed h]
  refine congrArg (fun M : Mat α m n => flat M) (ite_congr rfl (fun _ => Mat.transpose_transpose G) fun _ => ?_)
  apply eq_of_toM_eq
  rw [applyDense_eq, toM_transpose, Matrix.transpose_transpose, denoteP_eq]

/-- **the packed root denotes `U' diag(w) U'ᵀ`**: for any output `(e, U)` of `eigh` with `U Uᵀ = 1`, any real power
`pw`, both signs of the rank, any `padding_start ≠ 0`: unpacking the matrix `_low_rank_root` returns and forming the dense
matrix it denotes gives `U' diag(w) U'ᵀ`, where `U'` is `U` with its columns flipped (rank > 0) or rolled by the number of
padded dimensions (rank < 0), `w k = inv_e' k` (the direction's own root value `max(e, ridge)^(-1/p)`) on the first `r`
positions and `w k = const` on all others. -/
theorem low_rank_root_denotes {α : Type} [Field α] [BEq α] [LawfulBEq α] [Max α] [LE α] [DecidableLE α] {d r : Nat} (h : r + 2 < d)
    (pw : α → α) (neg : Bool) (ps : Option Nat) (hps : ps ≠ some 0) (ridge : α) (e : Vec α d) (U : Mat α d d)
    (hU : toM U * (toM U)ᵀ = 1) :
    let σ := perm d neg (d - ps.getD d)
    let invE := invEigs pw ridge (maskedEigs ps e)
    let c := (lowRankRootFields (r := r) (by omega) pw neg ps ridge e U).const
    toM (denoteP h (lowRankRoot h pw neg ps ridge e U)) =
      toM (fun a k => U a (σ k)) * Matrix.diagonal (fun k => if k.val < r then invE (σ k) else c)
        * (toM fun a k => U a (σ k))ᵀ := by
  intro σ invE c
  simp only [denoteP, lowRankRoot_unpack h pw neg ps hps ridge e U]
  exact denote_root_fields (r := r) (by omega) pw neg ps ridge e U hU

/-- which directions are retained: position `k` of the flipped order is ascending index `d - 1 - k` (the `k`-th
LARGEST eigenvalue of `eigh`'s ascending output); position `k < p` of the rolled order is ascending index
`k + (d - p)` — the `k`-th SMALLEST of the `p` unpadded ones, which `eigh` places after the `d - p` zeros. -/
theorem retained_directions (d p : Nat) (hp : p ≤ d) (k : Fin d) :
    (perm d false (d - p) k).val = d - 1 - k.val ∧
    (perm d true (d - p) k).val = if k.val < p then k.val + (d - p) else k.val - p :=
  ⟨perm_flip d (d - p) k, perm_roll d p hp k⟩

/-- **`const` is the mean of the other root values over the unpadded dimensions**: with `padding_start = p`,
`r < p ≤ d`, the constant is the sum over the positions `r ≤ k < p` divided by `p - r` (the padded positions `k ≥ p`
contribute exactly zero because their eigenvalues are masked). -/
theorem low_rank_root_const_is_mean {α : Type} [Field α] [BEq α] [LawfulBEq α] [Max α] [LE α] [DecidableLE α] {d r : Nat} (hr : r ≤ d)
    (pw : α → α) (neg : Bool) (p : Nat) (hrp : r < p) (hp : p ≤ d) (ridge : α) (e : Vec α d) (U : Mat α d d) :
    (lowRankRootFields hr pw neg (some p) ridge e U).const =
      (∑ k : Fin d, if r ≤ k.val ∧ k.val < p
          then invEigs pw ridge (maskedEigs (some p) e) (perm d neg (d - p) k) else 0) / ((p - r : Nat) : α) := by
  rw [const_root_fields]
  simp only [Option.getD_some, if_pos hrp]
  congr 1
  apply Finset.sum_congr rfl
  intro k _
  by_cases h1 : r ≤ k.val
  · by_cases h2 : k.val < p
    · rw [if_pos h1, if_pos ⟨h1, h2⟩]
    · rw [if_pos h1, if_neg (by omega)]
      exact invEigs_padded pw neg p hp ridge e k (by omega)
  · rw [if_neg h1, if_neg (by omega)]

/-- without padding (`padding_start is None`): the mean over the `d - r` not retained directions. -/
theorem low_rank_root_const_is_mean_nopad {α : Type} [Field α] [BEq α] [Max α] [LE α] [DecidableLE α] {d r : Nat} (hr : r < d)
    (pw : α → α) (neg : Bool) (ridge : α) (e : Vec α d) (U : Mat α d d) :
    (lowRankRootFields (Nat.le_of_lt hr) pw neg none ridge e U).const =
      (∑ k : Fin d, if r ≤ k.val then invEigs pw ridge e (perm d neg 0 k) else 0) / ((d - r : Nat) : α) := by
  rw [const_root_fields, Option.getD_none, Nat.sub_self, if_pos hr]
  rfl

/-- **retained root values are exact**: given the specification of the real power (`pw x ^ p * x = 1` for `x > 0`),
an eigenvalue `≥ ridge > 0` (every eigenvalue of `A + ridge·I` for PSD `A`) gets exactly its inverse `p`-th root. -/
theorem retained_root_exact {α : Type} [Field α] [LinearOrder α] [IsStrictOrderedRing α] [BEq α] [LawfulBEq α] {d : Nat}
    (pw : α → α) (p : Nat) (hpw : ∀ x : α, 0 < x → pw x ^ p * x = 1) (ridge : α) (hridge : 0 < ridge)
    (e : Vec α d) (i : Fin d) (hi : ridge ≤ e i) : invEigs pw ridge e i ^ p * e i = 1 :=
  invEigs_exact_pos pw p hpw ridge e i (lt_of_lt_of_le hridge hi) hi

/-- the same for a zero (or any) ridge and a strictly positive eigenvalue: `matrix_epsilon = 0` keeps exact roots on
the non-singular directions. -/
theorem retained_root_exact_pos {α : Type} [Field α] [LinearOrder α] [IsStrictOrderedRing α] [BEq α] [LawfulBEq α] {d : Nat}
    (pw : α → α) (p : Nat) (hpw : ∀ x : α, 0 < x → pw x ^ p * x = 1) (ridge : α)
    (e : Vec α d) (i : Fin d) (hpos : 0 < e i) (hi : ridge ≤ e i) : invEigs pw ridge e i ^ p * e i = 1 :=
  invEigs_exact_pos pw p hpw ridge e i hpos hi

/-- **zero ridge, singular statistics (D26)**: with `ridge = 0` an eigenvalue `e i ≤ 0` — an exact zero or a
rounding-level negative value of a singular matrix — gets root value `0`: that direction contributes nothing to
`U' diag(w) U'ᵀ` of `low_rank_root_denotes` (its weight is `0` when retained, and it adds `0` to the mean otherwise).
The unrepaired code evaluated `0 ^ (-1/p) = inf` here. -/
theorem zero_ridge_nonpositive_contributes_zero {α : Type} [Field α] [LinearOrder α] [BEq α] {d : Nat} (pw : α → α)
    (e : Vec α d) (i : Fin d) (hi : e i ≤ 0) : invEigs pw 0 e i = 0 :=
  invEigs_zero_ridge pw 0 (le_refl 0) e i hi

/-- **the root stays finite**: for every ridge and every eigenvalue the real power is evaluated only at a strictly
positive argument — each root value is `0` or `pw x` with `x = max(e i, ridge) > 0`, never `pw 0` or `pw` of a negative
number (the only arguments where `x ^ (-1/p)` is infinite or undefined). -/
theorem root_power_only_at_positive {α : Type} [Field α] [LinearOrder α] [BEq α] {d : Nat} (pw : α → α)
    (ridge : α) (e : Vec α d) (i : Fin d) :
    invEigs pw ridge e i = 0 ∨ (0 < max (e i) ridge ∧ invEigs pw ridge e i = pw (max (e i) ridge)) := by
  by_cases hle : max (e i) ridge ≤ 0
  · left
    simp only [invEigs, hle, decide_true, Bool.or_true, if_true]
  · by_cases h0 : (e i == 0) = true
    · left
      simp only [invEigs, h0, Bool.true_or, if_true]
    · right
      refine ⟨not_le.mp hle, ?_⟩
      simp only [invEigs, h0, hle, decide_false, Bool.or_self, Bool.false_eq_true, if_false]

/-- `padding_start == 0`: the root is the zero matrix. -/
theorem low_rank_root_zero_when_all_padded {α : Type} [Field α] [BEq α] [Max α] [LE α] [DecidableLE α] {d r : Nat} (h : r + 2 < d)
    (pw : α → α) (neg : Bool) (ridge : α) (e : Vec α d) (U : Mat α d d) :
    lowRankRoot h pw neg (some 0) ridge e U = fun _ _ => 0 := rfl

/-! ### non-vacuity -/

/-- the hypotheses of `low_rank_root_denotes` / `retained_root_exact` are met: `U = 1` is orthogonal, and at `p = 1`
the real power is `x ↦ 1 / x` -/
example : toM (fun i j : Fin 4 => if i = j then (1 : Rat) else 0) * (toM (fun i j : Fin 4 => if i = j then (1 : Rat) else 0))ᵀ = 1 := by
  have : toM (fun i j : Fin 4 => if i = j then (1 : Rat) else 0) = 1 := by
    funext i j; simp [Matrix.one_apply]
  rw [this, Matrix.transpose_one, Matrix.mul_one]

example : ∀ x : Rat, 0 < x → (fun x => 1 / x) x ^ 1 * x = 1 := by
  intro x hx
  have : x ≠ 0 := ne_of_gt hx
  simp [this]

/-- a packed matrix (`d = 5`, `r = 2`) meets `pack_unpack`'s hypothesis `hInv` (rows 2, 3 of column `-2` are zero) and holds
`const` in its slot `[0, -1]` -/
example : ∃ P : Mat Rat 5 4, (∀ i : Fin 5, 2 ≤ i.val → i.val < 4 → P i ⟨2, by omega⟩ = 0) ∧ P ⟨0, by omega⟩ ⟨3, by omega⟩ = 3 :=
  ⟨fdPack ⟨fun _ _ => 1, fun _ => 7, fun _ => 5, 3, 11, true⟩, by decide, by decide⟩

/-- `r + 2 < d` is satisfiable with both outcomes of `shouldCompress` -/
example : shouldCompress 2 5 = true ∧ shouldCompress 2 4 = false ∧ precondDim 2 5 = 4 ∧ precondDim 2 4 = 4 := by decide

end PrecondVerif.C10
