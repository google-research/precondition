/-
C11 — quantized optimizer state round-trips within half a bucket and never wraps.

Only the property theorems and non-vacuity examples live here; helper lemmas are in `Lemmas/Quant.lean` (exact facts),
`Lemmas/QuantFp.lean` (the rounding-error analysis) and `Lemmas/QuantFl32.lean` (the executed rounding functions), the
executable model (run at `Rat` by the driver) in `Model/Quant.lean`.

All theorems hold in every linearly ordered field `α` with a lawful floor (`LawfulFloor`: the model's
`HasFloor.floor` satisfies `z ≤ ⌊x⌋ ↔ (z:α) ≤ x`; instance for ℚ = the executed core `Rat.floor`, and
`LawfulFloor.ofFloorRing` for any Mathlib `FloorRing`, e.g. ℝ), for every number of buckets `N ≥ 1`
(127 for int8, 32767 for int16), every matrix view `rows × cols` of a tensor of any rank (a column is the
set of entries sharing the trailing coordinates — the reduction `axis=0` of the code), with and without
`extract_diagonal` (`ed`).  `x i c` is the entry in row `i` of column `c`.

Rounded arithmetic (`…_fp` theorems): the same computation with a rounding function `fl` after every
arithmetic operation (`quantizeFl`, `dequantizeFl`; the driver runs them with float32 rounding on exact
rationals and the harness compares bit for bit).  Hypothesis `∀ t, FlOK fl u t` is the standard model
`fl t = t(1+δ)`, `|δ| ≤ u` (no underflow, no overflow); `rb`, `rr` say whether the bucket / the ratio is
divided by a rounded division or as `fl (a * fl (1/b))` (what XLA-CPU emits for a constant or broadcast
divisor: two roundings, relative error `2u + u²`).

`…_fl32` theorems have no hypothesis on `fl`: `fl32` (the function the driver runs) is proved to obey the
model on `{0} ∪ {|t| ≥ 2⁻¹²⁶}` (`fl32_obeys_model`) and the column guard `NormalCol 2⁻¹²⁶ N` (decidable) keeps
every rounded operation there.

Not covered by theorems (shown only on executed inputs): flush-to-zero / denormals-are-zero
(known findings K1, K2, K4), overflow of `N*bucket` at `max|x| = FLT_MAX` (K3) — both excluded by the
no-underflow / no-overflow reading of `FlOK`.
-/
import PrecondVerif.Lemmas.QuantFl32

-- the theorems of a section share one `variable` line; not every one uses every class
set_option linter.unusedSectionVars false

namespace PrecondVerif.C11
open PrecondVerif.Quant

variable {α : Type} [Field α] [LinearOrder α] [IsStrictOrderedRing α] [HasFloor α] [LawfulFloor α]

/-- The stored bucket size of column `c` is the column's max-abs (of the off-diagonal part when the
diagonal is extracted) divided by `N`, and is non-negative. -/
theorem bucket_is_colmax_div_N (N rows cols : Nat) (ed : Bool) (x : Nat → Nat → α) (hN : 1 ≤ N) (c : Nat) :
    (quantize N rows cols ed x).bucket c = maxAbs (column rows (pre ed x) c) / (N : α) ∧
      0 ≤ (quantize N rows cols ed x).bucket c ∧
      ∀ i, i < rows → |pre ed x i c| ≤ maxAbs (column rows (pre ed x) c) := by
  refine ⟨by simp [bucketSize], ?_, fun i hi => le_maxAbs (mem_column _ c hi)⟩
  rw [quantize_bucket]; exact bucketSize_nonneg N _

/-- `dequantize (quantize x)` differs from `x` by at most half a bucket of the entry's column. -/
theorem roundtrip_half_bucket (N rows cols : Nat) (ed : Bool) (x : Nat → Nat → α) (hN : 1 ≤ N)
    (i c : Nat) (hi : i < rows) :
    |dequantize ed (quantize N rows cols ed x) i c - x i c|
      ≤ (quantize N rows cols ed x).bucket c / 2 := by
  rw [dequantize_sub, quantize_bucket]
  exact quantEntry_err hN _ (mem_column (pre ed x) c hi)

/-- Every stored integer lies in `[-N, N]`: the most negative value `-N-1` (−128, −32768) is never
produced, so negation / absolute value of the payload cannot wrap. -/
theorem no_wrap (N rows cols : Nat) (ed : Bool) (x : Nat → Nat → α) (hN : 1 ≤ N)
    (i c : Nat) (hi : i < rows) :
    |(quantize N rows cols ed x).q i c| ≤ (N : Int) ∧
      (quantize N rows cols ed x).q i c ≠ -(N : Int) - 1 := by
  have h : |(quantize N rows cols ed x).q i c| ≤ (N : Int) := by
    rw [quantize_q]
    exact quantEntry_abs_le hN _ (mem_column (pre ed x) c hi)
  exact ⟨h, ne_neg_sub_one_of_abs_le h⟩

/-- Zeros are stored as `0` and dequantize to exactly `0` (whatever the bucket). -/
theorem zero_exact (N rows cols : Nat) (ed : Bool) (x : Nat → Nat → α) (i c : Nat) (hx : x i c = 0) :
    (quantize N rows cols ed x).q i c = 0 ∧ dequantize ed (quantize N rows cols ed x) i c = 0 := by
  refine ⟨?_, ?_⟩
  · rw [quantize_q, pre_eq_zero ed hx]
    exact quantEntry_zero _
  · exact dequantize_zero N rows cols ed hx

/-- With `extract_diagonal`, the diagonal is kept outside the integer payload and reproduced exactly:
the stored diagonal is the diagonal, its payload entry is `0`, and `to_float` returns it unchanged. -/
theorem diagonal_exact (N rows cols : Nat) (x : Nat → Nat → α) (i : Nat) :
    (quantize N rows cols true x).diag i = x i i ∧
      (quantize N rows cols true x).q i i = 0 ∧
      dequantize true (quantize N rows cols true x) i i = x i i := by
  refine ⟨by simp, ?_, ?_⟩
  · rw [quantize_q, pre_diag]
    exact quantEntry_zero _
  · exact dequantize_diag N rows cols x i

/-- In a column that is not identically zero some entry (one of largest magnitude) is stored as `±N`:
the full integer range is used, and the bucket can be recovered from the payload. -/
theorem max_hits_N (N rows cols : Nat) (ed : Bool) (x : Nat → Nat → α) (hN : 1 ≤ N) (c : Nat)
    (hm : 0 < maxAbs (column rows (pre ed x) c)) :
    ∃ i, i < rows ∧ |(quantize N rows cols ed x).q i c| = (N : Int) := by
  obtain ⟨i, hi, hmax⟩ := exists_abs_eq_maxAbs (pre ed x) c hm
  exact ⟨i, hi, by rw [quantize_q]; exact quantEntry_max hN _ hm hmax⟩

/-- Re-quantizing a dequantized value reproduces the same integers, the same bucket sizes and the same
diagonal: state that is carried but not updated does not drift. -/
theorem requantize_idempotent (N rows cols : Nat) (ed : Bool) (x : Nat → Nat → α) (hN : 1 ≤ N) :
    (∀ c, (requantize N rows cols ed (quantize N rows cols ed x)).bucket c
        = (quantize N rows cols ed x).bucket c) ∧
    (∀ i c, i < rows → (requantize N rows cols ed (quantize N rows cols ed x)).q i c
        = (quantize N rows cols ed x).q i c) ∧
    (∀ i, (requantize N rows cols ed (quantize N rows cols ed x)).diag i
        = (quantize N rows cols ed x).diag i) := by
  have hb : ∀ c, (requantize N rows cols ed (quantize N rows cols ed x)).bucket c
      = (quantize N rows cols ed x).bucket c := by
    intro c
    unfold requantize
    rw [quantize_bucket, quantize_bucket, column_pre_dequantize]
    exact bucketSize_dequant hN _
  refine ⟨hb, fun i c hi => ?_, fun i => ?_⟩
  · have hbc := hb c
    unfold requantize at hbc ⊢
    rw [quantize_bucket, quantize_bucket] at hbc
    rw [quantize_q, hbc, quantize_q, pre_dequantize]
    exact quantEntry_dequant hN _ (mem_column (pre ed x) c hi)
  · unfold requantize
    rw [quantize_diag, quantize_diag]
    cases ed
    · rfl
    · exact (diagonal_exact N rows cols x i).2.2

/-- `jnp.round` semantics of the model: exact half-way ratios go to the even neighbour (no bias). -/
theorem round_ties_to_even (z : Int) :
    roundHalfEven ((z : α) + 1 / 2) = if z % 2 = 0 then z else z + 1 := round_tie z

/-! ### rounded arithmetic (floating-point error model) -/

/-- General form: every rounding commits a relative error `≤ u`; `eb = opErr rb u`, `er = opErr rr u` are
the errors of the computed bucket and ratio (`u`, or `2u+u²` for the reciprocal form).  The round trip
differs from `x` by at most `((1+eb)(1+u)/2 + N(er + u + er·u))` exact buckets `max|col| / N`. -/
theorem roundtrip_fp_general (fl : α → α) (u : α) (rb rr : Bool) (N rows cols : Nat) (ed : Bool)
    (x : Nat → Nat → α) (hN : 1 ≤ N) (hu : 0 ≤ u) (hfl : ∀ t, FlOK fl u t) (hub1 : opErr rb u < 1)
    (i c : Nat) (hi : i < rows) :
    |dequantizeFl fl ed (quantizeFl fl rb rr N rows cols ed x) i c - x i c|
      ≤ ((1 + opErr rb u) * (1 + u) / 2 + (N : α) * (opErr rr u + u + opErr rr u * u))
          * (maxAbs (column rows (pre ed x) c) / (N : α)) := by
  rw [dequantizeFl_sub (fl_zero hfl)]
  exact quantEntryFl_err hN _ hu (fl_zero hfl) hub1 (mem_column (pre ed x) c hi) fun _ => .of_forall hfl ..

/-- **roundtrip_fp** (standard model: one rounding per operation, `rb = rr = false`).  For `N ≥ 2` and
`u ≤ 1/8` the round trip error is at most `(1/2 + 3·N·u)` exact buckets. -/
theorem roundtrip_fp (fl : α → α) (u : α) (N rows cols : Nat) (ed : Bool)
    (x : Nat → Nat → α) (hN : 2 ≤ N) (hu : 0 ≤ u) (hu8 : u ≤ 1 / 8) (hfl : ∀ t, FlOK fl u t)
    (i c : Nat) (hi : i < rows) :
    |dequantizeFl fl ed (quantizeFl fl false false N rows cols ed x) i c - x i c|
      ≤ (1 / 2 + 3 * (N : α) * u) * (maxAbs (column rows (pre ed x) c) / (N : α)) := by
  have hN1 : 1 ≤ N := by omega
  have hN2 : (2 : α) ≤ (N : α) := by exact_mod_cast hN
  have h := roundtrip_fp_general fl u false false N rows cols ed x hN1 hu hfl
    (by rw [opErr_false]; linear_combination hu8) i c hi
  refine h.trans (mul_le_mul_of_nonneg_right ?_ (bucketSize_nonneg N _))
  rw [opErr_false]
  -- `(1+u)²/2 + N(2u+u²) ≤ 1/2 + 3Nu`: with `u ≤ 1/8`, `u²/2 + N u² ≤ (N/8 + 1/16) u ≤ (N - 1) u`
  have h1 := mul_le_mul_of_nonneg_right hu8 hu
  have h2 := mul_le_mul_of_nonneg_left h1 (Nat.cast_nonneg (α := α) N)
  have h3 := mul_le_mul_of_nonneg_right hN2 hu
  linear_combination (1 / 2) * h1 + h2 + (7 / 8) * h3 + (11 / 16) * hu

/-- Rounded-arithmetic round trip for any `fl` that obeys the model only on `{0} ∪ {|t| ≥ lo}`, for a column
that satisfies the explicit guard `NormalCol lo N` (identically zero, or exact bucket `b` with
`2·lo ≤ b`, `2·b·lo ≤ 1`, `N·lo ≤ 1` and every non-zero entry `≥ 4·lo·b`). -/
theorem roundtrip_fp_xla_guarded (fl : α → α) (u lo : α) (rb rr : Bool) (N rows cols : Nat) (ed : Bool)
    (x : Nat → Nat → α) (hN : 1 ≤ N) (hu : 0 ≤ u) (hNu : (N : α) * u ≤ 1 / 16) (hlo : 0 ≤ lo)
    (hfl : FlOKAbove fl u lo) (i c : Nat) (hi : i < rows)
    (hg : NormalCol lo N (column rows (pre ed x) c)) :
    |dequantizeFl fl ed (quantizeFl fl rb rr N rows cols ed x) i c - x i c|
      ≤ (1 / 2 + (3 * (N : α) + 2) * u) * (maxAbs (column rows (pre ed x) c) / (N : α)) := by
  rw [dequantizeFl_sub hfl.zero]
  have hmem := mem_column (pre ed x) c hi
  have hu16 : u ≤ 1 / 16 := le_of_natCast_mul_le hN hu hNu
  exact (quantEntryFl_err hN _ hu hfl.zero (opErr_lt_one hN hu hNu rb) hmem
      fun hm => hg.entryOK hN _ hu hu16 hlo hfl rb rr hm hmem).trans
    (mul_le_mul_of_nonneg_right (roundtrip_const_le hN hu hNu rb rr) (bucketSize_nonneg N _))

/-- no wrap and full range under the same guard -/
theorem no_wrap_fp_guarded (fl : α → α) (u lo : α) (rb rr : Bool) (N rows cols : Nat) (ed : Bool)
    (x : Nat → Nat → α) (hN : 1 ≤ N) (hu : 0 ≤ u) (hNu : (N : α) * u ≤ 1 / 16) (hlo : 0 ≤ lo)
    (hfl : FlOKAbove fl u lo) (i c : Nat) (hi : i < rows)
    (hg : NormalCol lo N (column rows (pre ed x) c)) :
    |(quantizeFl fl rb rr N rows cols ed x).q i c| ≤ (N : Int) ∧
      (0 < maxAbs (column rows (pre ed x) c) → |pre ed x i c| = maxAbs (column rows (pre ed x) c) →
        |(quantizeFl fl rb rr N rows cols ed x).q i c| = (N : Int)) := by
  rw [quantizeFl_q]
  have hmem := mem_column (pre ed x) c hi
  have hu16 : u ≤ 1 / 16 := le_of_natCast_mul_le hN hu hNu
  have hok := fun hm => hg.entryOK hN _ hu hu16 hlo hfl rb rr hm hmem
  exact ⟨quantEntryFl_abs_le hN _ hu hfl.zero (opErr_lt_one hN hu hNu rb) (nowrap_cond hN hu hNu rb rr) hmem hok,
    fun hm hmax => quantEntryFl_max hN _ hu (opErr_lt_one hN hu hNu rb) (nowrap_cond hN hu hNu rb rr) hm hmax (hok hm)⟩

/-- **roundtrip_fp_xla** (what XLA-CPU really computes: each of the two divisions may be a rounded
division or a product with a rounded reciprocal, any `rb`, `rr`).  For `N·u ≤ 1/16` the round trip error
is at most `(1/2 + (3N+2)·u)` exact buckets.  float32: `u = 2⁻²⁴`, `N ≤ 32767`. -/
theorem roundtrip_fp_xla (fl : α → α) (u : α) (rb rr : Bool) (N rows cols : Nat) (ed : Bool)
    (x : Nat → Nat → α) (hN : 1 ≤ N) (hu : 0 ≤ u) (hNu : (N : α) * u ≤ 1 / 16) (hfl : ∀ t, FlOK fl u t)
    (i c : Nat) (hi : i < rows) :
    |dequantizeFl fl ed (quantizeFl fl rb rr N rows cols ed x) i c - x i c|
      ≤ (1 / 2 + (3 * (N : α) + 2) * u) * (maxAbs (column rows (pre ed x) c) / (N : α)) :=
  roundtrip_fp_xla_guarded fl u 0 rb rr N rows cols ed x hN hu hNu le_rfl (.of_forall hfl) i c hi (.zero N _)

/-- **no_wrap_fp**.  In rounded arithmetic (any `rb`, `rr`) with `N·u ≤ 1/16` every stored integer still
lies in `[-N, N]`: the computed ratio of the largest entry is `N(1+δ₂)/(1+δ₁)`, which stays below
`N + 1/2` because `N(1+er) < (N+1/2)(1-eb)`.  (`q = N+1` needs `N(1+er) ≥ (N+1/2)(1-eb)`, i.e. about
`N ≥ 1/(8u)`; see `wrap_fp_witness`.) -/
theorem no_wrap_fp (fl : α → α) (u : α) (rb rr : Bool) (N rows cols : Nat) (ed : Bool)
    (x : Nat → Nat → α) (hN : 1 ≤ N) (hu : 0 ≤ u) (hNu : (N : α) * u ≤ 1 / 16) (hfl : ∀ t, FlOK fl u t)
    (i c : Nat) (hi : i < rows) :
    |(quantizeFl fl rb rr N rows cols ed x).q i c| ≤ (N : Int) ∧
      (quantizeFl fl rb rr N rows cols ed x).q i c ≠ -(N : Int) - 1 := by
  have h := (no_wrap_fp_guarded fl u 0 rb rr N rows cols ed x hN hu hNu le_rfl (.of_forall hfl) i c hi
    (.zero N _)).1
  exact ⟨h, ne_neg_sub_one_of_abs_le h⟩

/-- **max_hits_N_fp**.  Under the same hypotheses an entry of largest magnitude of a non-zero column is
still stored as exactly `±N`. -/
theorem max_hits_N_fp (fl : α → α) (u : α) (rb rr : Bool) (N rows cols : Nat) (ed : Bool)
    (x : Nat → Nat → α) (hN : 1 ≤ N) (hu : 0 ≤ u) (hNu : (N : α) * u ≤ 1 / 16) (hfl : ∀ t, FlOK fl u t)
    (c : Nat) (hm : 0 < maxAbs (column rows (pre ed x) c)) :
    ∃ i, i < rows ∧ |(quantizeFl fl rb rr N rows cols ed x).q i c| = (N : Int) := by
  obtain ⟨i, hi, hmax⟩ := exists_abs_eq_maxAbs (pre ed x) c hm
  exact ⟨i, hi, (no_wrap_fp_guarded fl u 0 rb rr N rows cols ed x hN hu hNu le_rfl (.of_forall hfl) i c hi
    (.zero N _)).2 hm hmax⟩

/-- **zero_exact_fp**, **diagonal_exact_fp**.  Zeros and the extracted diagonal are reproduced exactly in
rounded arithmetic as well. -/
theorem zero_exact_fp (fl : α → α) (u : α) (rb rr : Bool) (N rows cols : Nat) (ed : Bool)
    (x : Nat → Nat → α) (hfl : ∀ t, FlOK fl u t) (i c : Nat) (hx : x i c = 0) :
    dequantizeFl fl ed (quantizeFl fl rb rr N rows cols ed x) i c = 0 :=
  dequantizeFl_zero (fl_zero hfl) rb rr N rows cols ed hx

theorem diagonal_exact_fp (fl : α → α) (u : α) (rb rr : Bool) (N rows cols : Nat)
    (x : Nat → Nat → α) (hfl : ∀ t, FlOK fl u t) (i : Nat) :
    dequantizeFl fl true (quantizeFl fl rb rr N rows cols true x) i i = x i i :=
  dequantizeFl_diag (fl_zero hfl) rb rr N rows cols x i

/-- The smallness of `N·u` is needed: with `u = 2⁻⁸` (bfloat16 arithmetic) and `N = 127` the standard model
admits a rounding function for which the single-entry column `[127]` is stored as `128 = N + 1`, which
does not fit int8.  (float32: `u = 2⁻²⁴`, so `N ≤ 32767` is far inside `no_wrap_fp`.) -/
theorem wrap_fp_witness :
    ∃ fl : ℚ → ℚ, (∀ t, FlOK fl (1 / 256) t) ∧
      quantEntryFl fl false (bucketSizeFl fl false 127 [127]) 127 = 128 := by
  refine ⟨fun t => if t = 1 then 1 - 1 / 256 else t * (1 + 1 / 256), ?_, by decide +kernel⟩
  intro t
  by_cases ht : t = 1
  · subst ht; norm_num [FlOK]
  · exact FlOK.of_delta (δ := 1 / 256) (by norm_num) (if_neg ht)

/-! ### the executed rounding function: no residual hypothesis on `fl` -/

/-- **fl32_obeys_model**.  The rounding function the driver runs (`fl32`: nearest-even to 24 significant
bits, on exact rationals) satisfies the error-model hypothesis with `u = 2⁻²⁴` on the whole normal range
(and above: `roundNE` has no overflow) and at zero. -/
theorem fl32_obeys_model (t : ℚ) (ht : t = 0 ∨ (1 : ℚ) / 2 ^ 126 ≤ |t|) :
    |fl32 t - t| ≤ 1 / 2 ^ 24 * |t| := fl32_FlOKAbove t ht

/-- **bf16_cast_error**.  `astype(bfloat16)` (the passthrough dtype): a finite result of a value of
magnitude `≥ 2⁻¹²⁶` is within `2⁻⁸|x|` (half an 8-bit ulp) of `x`. -/
theorem bf16_cast_error (x r : ℚ) (h : bf16Round x = some r) (hx : (1 : ℚ) / 2 ^ 126 ≤ |x|) :
    |r - x| ≤ 1 / 2 ^ 8 * |x| := by
  rw [roundToFormat_eq_roundNE h]
  exact roundNE_err_126 8 x hx

/-- **roundtrip_fp_xla_fl32**.  The *executed* model `quantizeFl fl32 …` (float32 rounding after every
operation, any division variant `rb`, `rr`), for every `N` with `N·2⁻²⁴ ≤ 1/16`, round-trips every entry of
a column satisfying the decidable guard `NormalCol 2⁻¹²⁶ N` (the column is zero, or
`2⁻¹²⁵ ≤ max|col|/N ≤ 2¹²⁵`, `N ≤ 2¹²⁶`, non-zero entries `≥ 2⁻¹²⁴·max|col|/N`: every rounded operation
stays in the float32 normal range) within `(1/2 + (3N+2)·2⁻²⁴)` exact buckets.  No hypothesis on `fl`. -/
theorem roundtrip_fp_xla_fl32 (rb rr : Bool) (N rows cols : Nat) (ed : Bool) (x : Nat → Nat → ℚ)
    (hN : 1 ≤ N) (hNu : (N : ℚ) * (1 / 2 ^ 24) ≤ 1 / 16) (i c : Nat) (hi : i < rows)
    (hg : NormalCol (1 / 2 ^ 126) N (column rows (pre ed x) c)) :
    |dequantizeFl fl32 ed (quantizeFl fl32 rb rr N rows cols ed x) i c - x i c|
      ≤ (1 / 2 + (3 * (N : ℚ) + 2) * (1 / 2 ^ 24)) * (maxAbs (column rows (pre ed x) c) / (N : ℚ)) :=
  roundtrip_fp_xla_guarded fl32 (1 / 2 ^ 24) (1 / 2 ^ 126) rb rr N rows cols ed x hN (by positivity) hNu
    (by positivity) fl32_FlOKAbove i c hi hg

/-- the guard as the driver evaluates it (`normalColB`, reported per column by op `quantize_fl32`) -/
theorem guard_is_executed (lo : ℚ) (N : Nat) (col : List ℚ) :
    normalColB lo N col = true ↔ NormalCol lo N col := normalColB_iff lo N col

/-- **no_wrap_fp_fl32**.  Under the same guard the executed model never stores an integer outside `[-N, N]`
and stores the entries of largest magnitude as exactly `±N`. -/
theorem no_wrap_fp_fl32 (rb rr : Bool) (N rows cols : Nat) (ed : Bool) (x : Nat → Nat → ℚ)
    (hN : 1 ≤ N) (hNu : (N : ℚ) * (1 / 2 ^ 24) ≤ 1 / 16) (i c : Nat) (hi : i < rows)
    (hg : NormalCol (1 / 2 ^ 126) N (column rows (pre ed x) c)) :
    |(quantizeFl fl32 rb rr N rows cols ed x).q i c| ≤ (N : Int) ∧
      (0 < maxAbs (column rows (pre ed x) c) → |pre ed x i c| = maxAbs (column rows (pre ed x) c) →
        |(quantizeFl fl32 rb rr N rows cols ed x).q i c| = (N : Int)) :=
  no_wrap_fp_guarded fl32 (1 / 2 ^ 24) (1 / 2 ^ 126) rb rr N rows cols ed x hN (by positivity) hNu
    (by positivity) fl32_FlOKAbove i c hi hg

/-- **requantize_idempotent_fp**.  In rounded arithmetic (standard model, `N·u ≤ 1/32`; the second
quantization may use other division variants `rb'`, `rr'`) re-quantizing a dequantized value reproduces
every stored *integer*.  The bucket size is not reproduced exactly in general: it is
`fl(fl(N·b)/N)`, within `(u + e + u·e) ≤ 4u` relative of the stored one (observed on the real code: 1 ulp),
which is why the statement is about the integers — the ratio of a dequantized entry to the new bucket is
`q(1+θ)` with `N·|θ| < 1/2`. -/
theorem requantize_idempotent_fp (fl : α → α) (u : α) (rb rr rb' rr' : Bool) (N rows cols : Nat) (ed : Bool)
    (x : Nat → Nat → α) (hN : 1 ≤ N) (hu : 0 ≤ u) (hNu : (N : α) * u ≤ 1 / 32) (hfl : ∀ t, FlOK fl u t)
    (i c : Nat) (hi : i < rows) :
    (quantizeFl fl rb' rr' N rows cols ed
        (dequantizeFl fl ed (quantizeFl fl rb rr N rows cols ed x))).q i c
      = (quantizeFl fl rb rr N rows cols ed x).q i c := by
  have h0 := fl_zero hfl
  rw [quantizeFl_q, column_pre_dequantizeFl h0, pre_dequantizeFl h0, quantizeFl_q]
  exact quantEntryFl_requant hN _ hu hNu hfl rb rr rb' rr' (mem_column (pre ed x) c hi)

/-! ### dtype dispatch: float32 / bfloat16 are casts, int8 / int16 are the bucketed model -/

/-- `quantized_dtype == float32`: `to_float (from_float_value x) = x` (the payload *is* `x`) -/
theorem float32_passthrough (cast : α → α) (rows cols : Nat) (ed : Bool) (x : Nat → Nat → α) :
    toFloatAny ed (quantizeAny cast .float32 rows cols ed x) = x := rfl

/-- `quantized_dtype == bfloat16`: `to_float (from_float_value x)` is the cast of `x`, entry by entry,
whatever `extract_diagonal`; so it is the identity exactly on the values the cast fixes, and
re-quantizing is idempotent as soon as the cast is. -/
theorem bfloat16_is_cast (cast : α → α) (rows cols : Nat) (ed : Bool) (x : Nat → Nat → α) (i c : Nat) :
    toFloatAny ed (quantizeAny cast .bfloat16 rows cols ed x) i c = cast (x i c) := rfl

theorem bfloat16_requantize_idempotent (cast : α → α) (hc : ∀ t, cast (cast t) = cast t)
    (rows cols : Nat) (ed : Bool) (x : Nat → Nat → α) (i c : Nat) :
    toFloatAny ed (quantizeAny cast .bfloat16 rows cols ed
        (toFloatAny ed (quantizeAny cast .bfloat16 rows cols ed x))) i c
      = toFloatAny ed (quantizeAny cast .bfloat16 rows cols ed x) i c := hc _

/-- int8 / int16 are the bucketed model with `N = 127` / `32767` (so every theorem above applies) -/
theorem int_dtypes_bucketed (cast : α → α) (rows cols : Nat) (ed : Bool) (x : Nat → Nat → α) :
    toFloatAny ed (quantizeAny cast .int8 rows cols ed x) = dequantize ed (quantize 127 rows cols ed x) ∧
    toFloatAny ed (quantizeAny cast .int16 rows cols ed x) = dequantize ed (quantize 32767 rows cols ed x) ∧
    numBuckets .int8 = some 127 ∧ numBuckets .int16 = some 32767 ∧
    numBuckets .bfloat16 = none ∧ numBuckets .float32 = none :=
  ⟨rfl, rfl, rfl, rfl, rfl, rfl⟩

/-- which dtype each call site of `distributed_shampoo` / `sm3` asks for: momentum buffers are int8 only
with `best_effort_memory_usage_reduction` and rank > 1; statistics / preconditioners are int16 only on the
pmap path without low-rank compression; diagonal statistics are never bucketed; SM3 momentum always is -/
theorem call_site_dtypes (be lowRank fd pmapAxis sharded : Bool) (rank : Nat) :
    (dsMomentumDtype be rank = .int8 ↔ be = true ∧ 1 < rank) ∧
    (dsMomentumDtype be rank ≠ .int8 → dsMomentumDtype be rank = .float32) ∧
    (dsSecondMomentDtype be lowRank fd pmapAxis sharded = .int16 ↔
        be = true ∧ lowRank = false ∧ fd = false ∧ pmapAxis = true ∧ sharded = false) ∧
    (dsSecondMomentDtype be lowRank fd pmapAxis sharded ≠ .int16 →
        dsSecondMomentDtype be lowRank fd pmapAxis sharded = .float32) ∧
    dsDiagonalStatisticsDtype = .float32 ∧ sm3MomentumDtype = .int8 := by
  refine ⟨?_, ?_, ?_, ?_, rfl, rfl⟩
  · unfold dsMomentumDtype
    by_cases h : 1 < rank <;> cases be <;> simp [h]
  · unfold dsMomentumDtype
    by_cases h : 1 < rank <;> cases be <;> simp [h]
  · unfold dsSecondMomentDtype
    split <;> simp_all
  · unfold dsSecondMomentDtype
    split <;> simp_all

/-! ### non-vacuity: the hypotheses are satisfiable, at the executed type -/

/-- the theorems apply to the very term the driver evaluates (`Rat`, core instances) -/
example (N rows cols : Nat) (ed : Bool) (x : Nat → Nat → Rat) (hN : 1 ≤ N) (i c : Nat) (hi : i < rows) :
    |dequantize ed (quantize N rows cols ed x) i c - x i c|
      ≤ (quantize N rows cols ed x).bucket c / 2 :=
  roundtrip_half_bucket N rows cols ed x hN i c hi

/-- int8 on the column `[1/2, -127, 3/2]`: integers `[0, -127, 2]` (tie to even both ways), bucket 1 -/
example :
    (quantizeFlat (α := Rat) 127 [3] false #[1/2, -127, 3/2]).q = [0, -127, 2] ∧
    (quantizeFlat (α := Rat) 127 [3] false #[1/2, -127, 3/2]).bucket = [1] := by
  decide +kernel

/-- a non-zero column exists (`max_hits_N` hypothesis), 2×2 with extracted diagonal -/
example : 0 < maxAbs (column 2 (pre true (fromFlat (α := Rat) 2 #[1, 2, 3, 4])) 0) := by
  decide +kernel

/-- the lawful-floor hypothesis holds for any Mathlib `FloorRing` field (ℝ, ℚ, …) -/
example (β : Type) [Field β] [LinearOrder β] [IsStrictOrderedRing β] [FloorRing β] :
    @LawfulFloor β _ _ (HasFloor.ofFloorRing β) := LawfulFloor.ofFloorRing β

/-- the floating-point hypotheses are satisfiable at ℚ with the float32 unit roundoff `u = 2⁻²⁴` and
`N = 32767` (int16): `0 ≤ u`, `N·u ≤ 1/16`, and a rounding function obeying the standard model that is
not the identity (it always errs by the full `u`) -/
example :
    (0 : ℚ) ≤ 1 / 2 ^ 24 ∧ ((32767 : Nat) : ℚ) * (1 / 2 ^ 24) ≤ 1 / 16 ∧ (1 : ℚ) / 2 ^ 24 ≤ 1 / 8 ∧
    (∀ t : ℚ, FlOK (fun t => t * (1 + 1 / 2 ^ 24)) (1 / 2 ^ 24) t) := by
  refine ⟨by norm_num, by norm_num, by norm_num, fun t => ?_⟩
  exact FlOK.of_delta (δ := 1 / 2 ^ 24) (by norm_num) rfl

/-- … and the theorems apply to the term the driver evaluates (`quantizeFl` at `Rat`) for such an `fl` -/
example (rows cols : Nat) (ed : Bool) (x : Nat → Nat → Rat) (rb rr : Bool) (i c : Nat) (hi : i < rows) :
    |dequantizeFl (fun t => t * (1 + 1 / 2 ^ 24)) ed
        (quantizeFl (fun t => t * (1 + 1 / 2 ^ 24)) rb rr 32767 rows cols ed x) i c - x i c|
      ≤ (1 / 2 + (3 * ((32767 : Nat) : ℚ) + 2) * (1 / 2 ^ 24))
          * (maxAbs (column rows (pre ed x) c) / ((32767 : Nat) : ℚ)) :=
  roundtrip_fp_xla _ (1 / 2 ^ 24) rb rr 32767 rows cols ed x (by norm_num) (by norm_num) (by norm_num)
    (fun t => FlOK.of_delta (δ := 1 / 2 ^ 24) (by norm_num) rfl) i c hi

/-- float32 rounding on a concrete int8 column: `[1/3, -1, 1/7]` rounded to float32 first -/
example :
    (quantizeFlatFl fl32 true true 127 [3] false #[fl32 (1/3), -1, fl32 (1/7)]).q = [42, -127, 18] := by
  decide +kernel

/-- the guard of `roundtrip_fp_xla_fl32` is decidable and holds for an ordinary int16 column -/
example : NormalCol (1 / 2 ^ 126 : ℚ) 32767 (column 3 (fromFlat 1 #[fl32 (1/3), -1, 0]) 0) := by
  decide +kernel

end PrecondVerif.C11
