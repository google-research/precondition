/-
C01 — inverse p-th root is accurate and its reported error is honest.

Theorems about the definitions of `Model/InvRoot.lean` that `drv_c01` executes (`matPower`, `newtonRoot` =
`newtonOuter`/`outerBody`/`newtonInner`/`iterBody` over `matAlg`, `oneByOne`, `eighRoot`, `powerIteration`), for
every size `n`, padding start `s`, exponent `p`, symmetric input, ridge, and constants in the stated ranges
(`1 < max_error_ratio`, `0 ≤ error_tolerance`, `1 ≤ num_tries`), over any linearly ordered field.  Kernels are
parameters with their specification as hypotheses: `sqrt x ≥ 0`, `rootp z ^ p = z` for `z ≥ 0`,
`invroot x ^ p * x = 1` for `x > 0`, `cast32 x = x` (exact arithmetic), the `eigh` factorisation.
Matrices are read in Mathlib's `Matrix (Fin n) (Fin n) α` through `toM` / `Matrix.of`; `Es α n s` is the masked
identity `I_s`, `dampedM s A d = mask(A) + d·I_s`, `Ds s X = max|X − I_s|`.

Not proved here (decided on executed inputs only): rounding slack and finiteness in IEEE arithmetic, LOBPCG accuracy.
-/
import PrecondVerif.Lemmas.InvRoot
import PrecondVerif.Lemmas.InvRootReal

-- the theorems of this file share one `variable` line; not every one uses every class
set_option linter.unusedSectionVars false

namespace PrecondVerif.C01
open PrecondVerif.InvRoot Matrix

variable {α : Type} [Field α] [LinearOrder α] [IsStrictOrderedRing α] {n : Nat}

/-- `mat_power`: the squaring loop returns `x^p`, in any monoid. -/
theorem matPower_eq_pow {M : Type} [Monoid M] (x : M) (p : Nat) : matPower (· * ·) 1 x p = x ^ p :=
  (matPowerLoop_rep (R := M) (· * ·) id (fun _ _ => rfl) p 1 x).trans (mul_one _)

/-- `mat_power` on the executed matrix carrier is the matrix power. -/
theorem matPower_matrix (s : Nat) (sqrt : α → α) (X : DMat α n) (p : Nat) :
    toM (matPower (matAlg n s sqrt).mul (matAlg n s sqrt).one X p) = toM X ^ p :=
  (matAlg_rep s sqrt).matPower X p

/-- Newton invariant: every state the inner loop of try `i` reaches (any number of steps `f`) satisfies
`M = H^p · A_d`, and `H`, `M`, `A_d`, `I_s` commute / absorb, with `A_d = mask(A) + ridge·10^i·I_s`. -/
theorem newton_invariant (s : Nat) (c : NConsts α) (p : Nat) (pα alpha : α) (sqrt rootp : α → α)
    (A : Mat α n n) (ridge : α) (htol : 0 ≤ c.tol) (hp : 0 ≤ pα)
    (hroot : ∀ z, 0 ≤ z → rootp z ^ p = z) (hsqrt : ∀ x, 0 ≤ sqrt x) (i f : Nat) :
    let st := newtonInner (matAlg n s sqrt) c p alpha f
        (innerInit (matAlg n s sqrt) pα rootp (DMat.tab (Mat.mask s A)) ridge i)
    let Ad := dampedM s A (ridge * 10 ^ i)
    toM st.m = toM st.h ^ p * Ad ∧ Commute (toM st.h) Ad ∧ Commute (toM st.m) Ad ∧
      Es α n s * toM st.h = toM st.h ∧ toM st.h * Es α n s = toM st.h ∧ st.err = Ds s (toM st.m) := by
  intro st Ad
  have inv := (newtonInner_inv s c p pα alpha sqrt rootp A ridge htol hp hroot hsqrt i f).1
  refine ⟨inv.m_eq, inv.comm, ?_, inv.h_corner.1, inv.h_corner.2, inv.err_eq⟩
  rw [inv.m_eq]; exact (inv.comm.pow_left p).mul_left (Commute.refl _)

/-- Honesty of the reported error: for the returned `(X, err, retries)` of the Newton routine,
`retries ≥ 1` and `max|X^p · A_d(retries−1) − I_s| ≤ err` entrywise, with equality of the maximum on the converged
branch (`ratio < max_error_ratio`).  The hypothesis `1 < max_error_ratio` is consumed on the diverged branch, where
`X = H_old`, whose own residual is `err / ratio`. -/
theorem newton_error_honest (s : Nat) (hs : s ≠ 0) (c : NConsts α) (p : Nat) (pα alpha : α)
    (sqrt rootp cast32 : α → α) (thousand epsFloor eps maxEv : α) (A : Mat α n n)
    (hr : 1 < c.rmax) (htol : 0 ≤ c.tol) (hnt : 1 ≤ c.numTries) (hp : 0 ≤ pα)
    (hroot : ∀ z, 0 ≤ z → rootp z ^ p = z) (hsqrt : ∀ x, 0 ≤ sqrt x) (hcast : ∀ x, cast32 x = x) :
    let r := newtonRoot s c p pα alpha sqrt rootp cast32 thousand epsFloor eps maxEv A
    let Ad := dampedM s A (ridgeOf eps maxEv epsFloor * 10 ^ (r.retries - 1))
    1 ≤ r.retries ∧ (∀ i j, |((Matrix.of r.x) ^ p * Ad - Es α n s) i j| ≤ r.err) ∧
      (r.ratio < c.rmax → Ds s ((Matrix.of r.x) ^ p * Ad) = r.err) := by
  intro r Ad
  obtain ⟨k, hret, hx, herr, hratio, inv, _⟩ :=
    newtonRoot_eq_try s c p pα alpha sqrt rootp cast32 thousand epsFloor eps maxEv A hs hnt htol hp hroot hsqrt
  have hon := blend_honest (matAlg_rep s sqrt) c hr inv
  have hAd : Ad = dampedM s A (ridgeOf eps maxEv epsFloor * 10 ^ k) := by
    simp only [Ad, r, hret, Nat.add_sub_cancel]
  rw [hAd, hx, herr, hratio, hcast]
  refine ⟨le_of_le_of_eq (Nat.le_add_left 1 k) hret.symm, fun i j => le_trans ?_ hon.1, hon.2⟩
  exact le_maxAbs (Mat.sub _ (Mat.maskedId s)) i j

/-- the `padding_start == 0` override: an all-padding input returns the zero matrix with error `0` -/
theorem newton_all_padding (c : NConsts α) (p : Nat) (pα alpha : α) (sqrt rootp cast32 : α → α)
    (thousand epsFloor eps maxEv : α) (A : Mat α n n) :
    (newtonRoot 0 c p pα alpha sqrt rootp cast32 thousand epsFloor eps maxEv A).x = (fun _ _ => 0) ∧
      (newtonRoot 0 c p pα alpha sqrt rootp cast32 thousand epsFloor eps maxEv A).err = 0 := by
  simp [newtonRoot]

/-- the returned root is exactly zero on padding rows and columns -/
theorem newton_padding_zero (s : Nat) (c : NConsts α) (p : Nat) (pα alpha : α)
    (sqrt rootp cast32 : α → α) (thousand epsFloor eps maxEv : α) (A : Mat α n n)
    (htol : 0 ≤ c.tol) (hnt : 1 ≤ c.numTries) (hp : 0 ≤ pα)
    (hroot : ∀ z, 0 ≤ z → rootp z ^ p = z) (hsqrt : ∀ x, 0 ≤ sqrt x) (i j : Fin n)
    (hij : s ≤ i.val ∨ s ≤ j.val) :
    (newtonRoot s c p pα alpha sqrt rootp cast32 thousand epsFloor eps maxEv A).x i j = 0 := by
  by_cases hs : s = 0
  · subst hs
    rw [(newton_all_padding c p pα alpha sqrt rootp cast32 thousand epsFloor eps maxEv A).1]
  obtain ⟨k, -, hx, -, -, inv, -⟩ :=
    newtonRoot_eq_try s c p pα alpha sqrt rootp cast32 thousand epsFloor eps maxEv A hs hnt htol hp hroot hsqrt
  have := ((matAlg_rep s sqrt).blend_induct c _ inv.h_corner inv.hold_corner).apply_eq_zero i j hij
  rwa [← hx] at this

/-- the returned root of a symmetric input is symmetric -/
theorem newton_symmetric (s : Nat) (c : NConsts α) (p : Nat) (pα alpha : α)
    (sqrt rootp cast32 : α → α) (thousand epsFloor eps maxEv : α) (A : Mat α n n) (hA : ∀ i j, A i j = A j i)
    (htol : 0 ≤ c.tol) (hnt : 1 ≤ c.numTries) (hp : 0 ≤ pα)
    (hroot : ∀ z, 0 ≤ z → rootp z ^ p = z) (hsqrt : ∀ x, 0 ≤ sqrt x) (i j : Fin n) :
    (newtonRoot s c p pα alpha sqrt rootp cast32 thousand epsFloor eps maxEv A).x i j =
      (newtonRoot s c p pα alpha sqrt rootp cast32 thousand epsFloor eps maxEv A).x j i := by
  by_cases hs : s = 0
  · subst hs
    rw [(newton_all_padding c p pα alpha sqrt rootp cast32 thousand epsFloor eps maxEv A).1]
  obtain ⟨k, -, hx, -, -, -, hsym⟩ :=
    newtonRoot_eq_try s c p pα alpha sqrt rootp cast32 thousand epsFloor eps maxEv A hs hnt htol hp hroot hsqrt
  have hb := (matAlg_rep s sqrt).blend_induct c _ (P := fun X => Xᵀ = X) (hsym hA).1 (hsym hA).2
  rw [← hx] at hb
  exact (congrFun (congrFun hb i) j).symm

/-- the `1×1` branch returns `(a + d)^(-1/p)` and its reported error is the residual of that root, which is `0`
under the kernel specification `invroot x ^ p * x = 1` for `x > 0` -/
theorem onebyone_root (p : Nat) (invroot cast32 : α → α) (a ridge : α) (ha : 0 ≤ a) (hd : 0 < ridge)
    (hinv : ∀ x, 0 < x → invroot x ^ p * x = 1) (hcast : ∀ x, cast32 x = x) :
    (oneByOne p invroot cast32 a ridge).1 = invroot (a + ridge) ∧
      (oneByOne p invroot cast32 a ridge).2 = |(oneByOne p invroot cast32 a ridge).1 ^ p * (a + ridge) - 1| ∧
      (oneByOne p invroot cast32 a ridge).2 = 0 := by
  have hpos : 0 < a + ridge := add_pos_of_nonneg_of_pos ha hd
  simp only [oneByOne, hcast, natPow_eq_pow, absS_eq_abs, hinv _ hpos]
  simp

/-- the matrix handed to `eigh` is `A_d = mask(A) + d·I_s` -/
theorem eigh_input_is_damped (s : Nat) (A : Mat α n n) (ridge : α) :
    (Matrix.of (regularized s A ridge) : MatR α n) = dampedM s A ridge := by
  rw [of_regularized, dampedM, maskM, Es]

/-- eigh root: under the `eigh` specification for the regularised input (`U` orthogonal, `U diag(e) Uᵀ = A_d`, the
`n − s` eigenvalues of the padding are `0` and come first, the others are `≥ d > 0`, and the eigenvectors of the non-zero
eigenvalues span the unpadded coordinates: `U diag(flip(ix)) Uᵀ = I_s`) and the scalar kernel specifications,
`X^p · A_d = I_s`, `X` is symmetric and exactly zero on padding rows and columns. -/
theorem eigh_root_exact [BEq α] [LawfulBEq α] (s p : Nat) (hs : s ≠ 0) (sqrt invroot : α → α) (ridge : α)
    (hridge : 0 < ridge) (A U : Mat α n n) (e : Vec α n)
    (hU1 : (Matrix.of U : MatR α n)ᵀ * Matrix.of U = 1) (hU2 : (Matrix.of U : MatR α n) * (Matrix.of U)ᵀ = 1)
    (hdec : (Matrix.of U : MatR α n) * Matrix.diagonal e * (Matrix.of U)ᵀ = Matrix.of (regularized s A ridge))
    (hproj : (Matrix.of U : MatR α n) * Matrix.diagonal (flipIx n s) * (Matrix.of U)ᵀ = Es α n s)
    (hpos : ∀ i : Fin n, n - 1 - i.val < s → ridge ≤ e i) (hzero : ∀ i : Fin n, ¬ n - 1 - i.val < s → e i = 0)
    (hsqrt : ∀ x, 0 ≤ x → sqrt x * sqrt x = x) (hinv : ∀ x, 0 < x → 0 ≤ invroot x ∧ invroot x ^ p * x = 1) :
    let X : MatR α n := Matrix.of (eighRoot s sqrt invroot ridge A U e).1
    X ^ p * dampedM s A ridge = Es α n s ∧ Xᵀ = X ∧ ∀ i j : Fin n, s ≤ i.val ∨ s ≤ j.val → X i j = 0 := by
  intro X
  have hX : X = Matrix.of (eighVal sqrt U (eighInvE s invroot ridge e)) :=
    congrArg Matrix.of (eighRoot_fst hs sqrt invroot ridge A U e)
  obtain ⟨h1, h2, h3⟩ := eigh_root_core (EighOK.mk hridge hU1 hU2 hpos hzero hsqrt hinv)
  rw [hdec, eigh_input_is_damped, hproj] at h1
  rw [hproj] at h3
  rw [hX]
  exact ⟨h1, h2, h3.apply_eq_zero⟩

/-- the error figure of the eigh routine is, by definition, the masked residual of the decomposition it was handed -/
theorem eigh_error_is_residual [BEq α] (s : Nat) (hs : s ≠ 0) (sqrt invroot : α → α) (ridge : α) (A U : Mat α n n)
    (e : Vec α n) :
    (eighRoot s sqrt invroot ridge A U e).2 =
      Mat.maxAbs (fun i j => ((Mat.mul (Mat.transpose U) (Mat.mul (regularized s A ridge) U)) i j -
        (if i = j then e i * flipIx n s i else 0)) * flipIx n s j : Mat α n n) := by
  simp [eighRoot, hs, eighErr]

/-- Rayleigh bound in any ordered field: the power-iteration estimate never exceeds any `lam ≥ 0` that bounds the
quadratic form, `xᵀ A x ≤ lam · xᵀ x` for all `x` (i.e. `lam·1 − A` positive semi-definite). -/
theorem rayleigh_le_bound (sqrt : α → α) (hsqrt : ∀ x, 0 ≤ x → sqrt x * sqrt x = x) (tol : α) (numIters : Nat)
    (A : Mat α n n) (v0 : Vec α n) (lam : α) (hlam : 0 ≤ lam)
    (hmax : ∀ x : Vec α n, dot x (Mat.mulVec A x) ≤ lam * dot x x) :
    powerIteration sqrt tol numIters A v0 ≤ lam := by
  unfold powerIteration
  exact piLoop_le sqrt hsqrt tol A lam hlam hmax numIters numIters _ hlam

/-- `rayleigh_le_max_eig`: for a real positive semi-definite (symmetric) matrix `A` of any size, any start vector, any
tolerance and iteration bound, the estimate returned by the model's power iteration (with `sqrt = Real.sqrt`) is at most
the largest eigenvalue of `A` — `⨆ i, eigenvalues i` of Mathlib's spectral decomposition (`λ_max·1 − A` is PSD by the
spectral theorem, hence `xᵀAx ≤ λ_max xᵀx`).  Zero iterates are covered (`0/0 = 0` gives the estimate `0 ≤ λ_max`). -/
theorem rayleigh_le_max_eig {n : Nat} (tol : ℝ) (numIters : Nat) (A : Mat ℝ n n) (v0 : Vec ℝ n)
    (hpsd : (Matrix.of A : Matrix (Fin n) (Fin n) ℝ).PosSemidef) :
    powerIteration Real.sqrt tol numIters A v0 ≤ ⨆ i, hpsd.1.eigenvalues i := by
  apply rayleigh_le_bound Real.sqrt (fun x hx => Real.mul_self_sqrt hx) tol numIters A v0
  · exact Real.iSup_nonneg fun i => hpsd.eigenvalues_nonneg i
  · intro x
    have h := quad_le_max_eig (Matrix.of A) hpsd.1 x
    have e1 : dot x (Mat.mulVec A x) = x ⬝ᵥ ((Matrix.of A : Matrix (Fin n) (Fin n) ℝ) *ᵥ x) := by
      simp only [dot, Mat.mulVec, sumFin_eq_sum, dotProduct, Matrix.mulVec, Matrix.of_apply]
    have e2 : dot x x = x ⬝ᵥ x := by simp only [dot, sumFin_eq_sum, dotProduct]
    rw [e1, e2]; exact h

/-- the ridge is therefore never scaled by more than such a bound -/
theorem ridge_le_of_rayleigh (eps maxEv floor lam : α) (heps : 0 ≤ eps) (h : maxEv ≤ lam) (hf : floor ≤ lam) :
    ridgeOf eps maxEv floor ≤ eps * lam := by
  rw [ridgeOf_eq]
  exact mul_le_mul_of_nonneg_left (max_le h hf) heps

/-- ext `eigh_root_perturbed` (no padding, `n ≤ s`): if the `U` handed back by `eigh` is orthogonal, the computed
eigenvalues are `≥ d`, and the decomposition residual satisfies `|Uᵀ R U − diag e|_max ≤ η` for the regularised input
`R = A_d`, then the model's root satisfies `|X^p · A_d − 1|_max ≤ n · η / d` — the "slack proportional to the regularised
condition number" clause (`1/d` is the norm of `A_d⁻¹`; the constant is exactly `n`). -/
theorem eigh_root_perturbed [BEq α] [LawfulBEq α] (s p : Nat) (hs : s ≠ 0) (hns : n ≤ s) (sqrt invroot : α → α)
    (ridge : α) (hridge : 0 < ridge) (A U : Mat α n n) (e : Vec α n) (η : α)
    (hU1 : (Matrix.of U : MatR α n)ᵀ * Matrix.of U = 1) (hU2 : (Matrix.of U : MatR α n) * (Matrix.of U)ᵀ = 1)
    (hge : ∀ i : Fin n, ridge ≤ e i)
    (hη : ∀ i j, |((Matrix.of U : MatR α n)ᵀ * dampedM s A ridge * Matrix.of U - Matrix.diagonal e) i j| ≤ η)
    (hsqrt : ∀ x, 0 ≤ x → sqrt x * sqrt x = x) (hinv : ∀ x, 0 < x → 0 ≤ invroot x ∧ invroot x ^ p * x = 1) :
    let X : MatR α n := Matrix.of (eighRoot s sqrt invroot ridge A U e).1
    ∀ i j, |(X ^ p * dampedM s A ridge - 1) i j| ≤ (n : α) * η / ridge := by
  intro X
  have hX : X = Matrix.of (eighVal sqrt U (eighInvE s invroot ridge e)) :=
    congrArg Matrix.of (eighRoot_fst hs sqrt invroot ridge A U e)
  have hkept : ∀ k : Fin n, n - 1 - k.val < s := fun k => by omega
  have hP : (Matrix.of U : MatR α n) * Matrix.diagonal (flipIx n s) * (Matrix.of U)ᵀ = 1 := by
    rw [funext (flipIx_of_le hns), Matrix.diagonal_one, mul_one, hU2]
  intro i j
  rw [hX, ← hP]
  exact eigh_root_perturbed_core ⟨hridge, hU1, hU2, fun k _ => hge k, fun k h => absurd (hkept k) h, hsqrt, hinv⟩
    (dampedM s A ridge) η hη i j

/-- honesty of the eigh error figure (no padding): the figure the routine reports IS such an `η`, so
`|X^p · A_d − 1|_max ≤ n · err / d` for the returned `(X, err)`. -/
theorem eigh_error_honest [BEq α] [LawfulBEq α] (s p : Nat) (hs : s ≠ 0) (hns : n ≤ s) (sqrt invroot : α → α)
    (ridge : α) (hridge : 0 < ridge) (A U : Mat α n n) (e : Vec α n)
    (hU1 : (Matrix.of U : MatR α n)ᵀ * Matrix.of U = 1) (hU2 : (Matrix.of U : MatR α n) * (Matrix.of U)ᵀ = 1)
    (hge : ∀ i : Fin n, ridge ≤ e i)
    (hsqrt : ∀ x, 0 ≤ x → sqrt x * sqrt x = x) (hinv : ∀ x, 0 < x → 0 ≤ invroot x ∧ invroot x ^ p * x = 1) :
    let X : MatR α n := Matrix.of (eighRoot s sqrt invroot ridge A U e).1
    ∀ i j, |(X ^ p * dampedM s A ridge - 1) i j| ≤ (n : α) * (eighRoot s sqrt invroot ridge A U e).2 / ridge := by
  apply eigh_root_perturbed s p hs hns sqrt invroot ridge hridge A U e _ hU1 hU2 hge _ hsqrt hinv
  intro i j
  rw [eigh_error_is_residual s hs]
  refine le_of_eq_of_le (congrArg abs ?_) (le_maxAbs _ i j)
  rw [flipIx_of_le hns j, mul_one, flipIx_of_le hns i, mul_one, Matrix.sub_apply, Matrix.diagonal_apply, Matrix.mul_assoc,
    ← eigh_input_is_damped]
  simp only [Matrix.mul_apply, Matrix.transpose_apply, Matrix.of_apply, Mat.mul, Mat.transpose, sumFin_eq_sum]

/-- hypotheses of the Newton theorems are satisfiable: `ℚ`, `p = 1` (so `rootp = id`), constants of the source -/
example : ∃ (c : NConsts ℚ) (rootp sqrt : ℚ → ℚ), 1 < c.rmax ∧ 0 ≤ c.tol ∧ 1 ≤ c.numTries ∧
    (∀ z, 0 ≤ z → rootp z ^ 1 = z) ∧ (∀ x, 0 ≤ sqrt x) :=
  ⟨{ numIters := 100, tol := 1 / 1000000, rmax := 6 / 5, retryThr := 1 / 20, numTries := 6 }, id, fun _ => 3,
    by norm_num, by norm_num, by norm_num, fun z _ => by simp, fun _ => by norm_num⟩

/-- the eigh hypotheses are satisfiable: `n = 1`, `s = 1`, `A = (3)`, ridge `1`, `U = (1)`, `e = (4)`, `p = 1`,
`invroot x = 1/x`, `sqrt` any function with `sqrt (1/4) = 1/2` -/
example : ∃ (U A : Mat ℚ 1 1) (e : Vec ℚ 1),
    (Matrix.of U : MatR ℚ 1)ᵀ * Matrix.of U = 1 ∧
    (Matrix.of U : MatR ℚ 1) * Matrix.diagonal e * (Matrix.of U)ᵀ = Matrix.of (regularized 1 A 1) ∧
    (Matrix.of U : MatR ℚ 1) * Matrix.diagonal (flipIx 1 1) * (Matrix.of U)ᵀ = Es ℚ 1 1 ∧
    (∀ i : Fin 1, 1 - 1 - i.val < 1 → (1 : ℚ) ≤ e i) := by
  refine ⟨fun _ _ => 1, fun _ _ => 3, fun _ => 4, ?_, ?_, ?_, ?_⟩
  · ext i j; simp [Matrix.mul_apply, Matrix.one_apply, Subsingleton.elim i j]
  · ext i j; simp [Matrix.mul_apply, regularized, Mat.add, Mat.smul, Mat.mask, Mat.maskedId, Mat.one, Mat.ix,
      Subsingleton.elim i j]; norm_num
  · ext i j; simp [Matrix.mul_apply, flipIx, Es, Mat.maskedId, Mat.one, Mat.ix, Subsingleton.elim i j]
  · intro i _; norm_num

/-- `rayleigh_le_max_eig` applies to a non-trivial instance: the `2×2` identity is positive semi-definite -/
example : (Matrix.of (Mat.one : Mat ℝ 2 2) : Matrix (Fin 2) (Fin 2) ℝ).PosSemidef := by
  have h : (Matrix.of (Mat.one : Mat ℝ 2 2) : Matrix (Fin 2) (Fin 2) ℝ) = 1 := by
    ext i j; simp [Mat.one, Matrix.one_apply]
  rw [h]; exact Matrix.PosSemidef.one

/-- the hypotheses of `eigh_root_perturbed` are satisfiable with a non-zero residual: `n = 1`, `A = (3)`, ridge `1`
(so `A_d = (4)`), `U = (1)`, computed eigenvalue `e = 5`, `η = 1` -/
example : ∃ (U A : Mat ℚ 1 1) (e : Vec ℚ 1) (η : ℚ),
    (Matrix.of U : MatR ℚ 1)ᵀ * Matrix.of U = 1 ∧ (∀ i : Fin 1, (1 : ℚ) ≤ e i) ∧
    (∀ i j, |((Matrix.of U : MatR ℚ 1)ᵀ * dampedM 1 A 1 * Matrix.of U - Matrix.diagonal e) i j| ≤ η) := by
  refine ⟨fun _ _ => 1, fun _ _ => 3, fun _ => 5, 1, ?_, ?_, ?_⟩
  · ext i j; simp [Matrix.mul_apply, Matrix.one_apply, Subsingleton.elim i j]
  · intro i; norm_num
  · intro i j
    simp [Matrix.mul_apply, dampedM, maskM, Es, Mat.mask, Mat.maskedId, Mat.one, Mat.ix, Subsingleton.elim i j]
    norm_num

end PrecondVerif.C01
