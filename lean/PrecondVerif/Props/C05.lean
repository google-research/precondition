/-
C05 — grafting: warm-up uses the graft step, afterwards only its norm is transplanted.

Section `Normed` states the identities in ANY real normed space `E` (hence every dimension, and every representation of
the preconditioner: only `‖·‖` and `•` of the preconditioned gradient enter). The definitions `dsShampooG`,
`dsPrecondGrad`, `tfMaybeGraftG` are the ones the driver executes (instantiated there at flat lists).

Section `ListModel` states them for the executable list model `dsTransform` / `tfMaybeGraft` themselves, over every linearly
ordered field with a square-root function meeting `SqrtSpec` (at ℝ: `Real.sqrt`, no residual hypothesis), for
every vector length, step, start step and configuration.

It also characterises the exclusion predicates (`ds_skip_iff`, `tearfree_mask_iff`) and the composed one-leaf Tearfree
update `tfTransform` the driver folds over a history (`tearfree_transform_list`).

Sections `Closed` and `Variants`: closed forms of the graft accumulators and of every closed-form graft step of Distributed Shampoo (AdaGrad,
RMSProp, their normalised variants, SQRT_N, RMSProp with `clip_by_scaled_gradient_norm`) by induction over the gradient
history, and the accumulator the driver's fold carries (`graft_accumulator_history`).

Section `Wrapper`: the wrapper around an OPAQUE graft step `s` (`dsApplyGraft`, `tfApplyGraft`: the definitions `dsTransform` /
`tfTransform` are built from): for ANY vector `s` the pre-start / excluded update is `s`, the post-start update is
`(‖s‖/(‖p‖+ε))·p` — this is what covers optax's ADAFACTOR, which stays opaque.

Gap (stated, not hidden): after the start step the norm of a Distributed Shampoo update is
`‖graft‖·‖p‖/(‖p‖+ε)` with `ε = _EPSILON = 1e-25`, i.e. strictly below `‖graft‖` (`ds_graft_norm_strict`);
floating-point rounding of norms is outside these exact-arithmetic theorems (checked by the harness with a
tolerance).
-/
import PrecondVerif.Lemmas.Graft
import Mathlib.Analysis.InnerProductSpace.PiL2

set_option linter.unusedSectionVars false

namespace PrecondVerif.C05
open PrecondVerif.Graft

section Normed
variable {E : Type} [NormedAddCommGroup E] [NormedSpace ℝ E]

/-- After the start step the update is a non-negative multiple of the preconditioned gradient. -/
theorem ds_graft_direction (ε : ℝ) (hε : 0 ≤ ε) (graft p : E) :
    dsShampooG (normedOps E) ε graft p = (‖graft‖ / (‖p‖ + ε)) • p ∧ 0 ≤ ‖graft‖ / (‖p‖ + ε) :=
  ⟨rfl, dsMultiplier_nonneg hε (norm_nonneg graft) (norm_nonneg p)⟩

/-- Its norm is the graft norm up to the exact `ε` term. -/
theorem ds_graft_norm (ε : ℝ) (hε : 0 ≤ ε) (graft p : E) :
    ‖dsShampooG (normedOps E) ε graft p‖ = ‖graft‖ * ‖p‖ / (‖p‖ + ε) :=
  dsShampooG_nrm (normedOps_normLike E) hε graft p

/-- `0 ≤ ‖graft‖ − ‖upd‖ ≤ ‖graft‖·ε/‖p‖` for `p ≠ 0`. -/
theorem ds_graft_norm_gap (ε : ℝ) (hε : 0 < ε) (graft p : E) (hp : p ≠ 0) :
    0 ≤ ‖graft‖ - ‖dsShampooG (normedOps E) ε graft p‖ ∧
      ‖graft‖ - ‖dsShampooG (normedOps E) ε graft p‖ ≤ ‖graft‖ * ε / ‖p‖ := by
  have h := dsShampooG_gap (normedOps_normLike E) hε graft p
  exact ⟨h.1, h.2 (norm_pos_iff.mpr hp)⟩

/-- The slack is real: with `ε > 0` the transplanted norm is strictly smaller than the graft norm. -/
theorem ds_graft_norm_strict (ε : ℝ) (hε : 0 < ε) (graft p : E) (hg : graft ≠ 0) :
    ‖dsShampooG (normedOps E) ε graft p‖ < ‖graft‖ := by
  rw [ds_graft_norm ε hε.le]
  rw [div_lt_iff₀ (add_pos_of_nonneg_of_pos (norm_nonneg p) hε), mul_add]
  exact lt_add_of_pos_right _ (mul_pos (norm_pos_iff.mpr hg) hε)

/-- Zero preconditioned gradient ⇒ zero update. -/
theorem ds_graft_zero (ε : ℝ) (graft : E) : dsShampooG (normedOps E) ε graft (0 : E) = 0 :=
  smul_zero (dsMultiplier ε ‖graft‖ ‖(0 : E)‖)

/-- A parameter excluded from preconditioning gets (a multiple `‖g‖/(‖g‖+ε)` of) the graft step itself. -/
theorem ds_skipped_is_graft (ε : ℝ) (graft precond : E) :
    dsShampooG (normedOps E) ε graft (dsPrecondGrad true graft precond)
      = (‖graft‖ / (‖graft‖ + ε)) • graft := rfl

/-- Tearfree: exact norm transplant when the base update is non-zero, zero update when it is zero,
the graft update itself before the start step and for masked leaves. -/
theorem tearfree_graft_exact (count start : Nat) (g b : E) :
    (start ≤ count → b ≠ 0 → ‖tfMaybeGraftG (normedOps E) count start false g b‖ = ‖g‖) ∧
    (start ≤ count → b ≠ 0 →
        tfMaybeGraftG (normedOps E) count start false g b = (‖g‖ / ‖b‖) • b ∧ 0 ≤ ‖g‖ / ‖b‖) ∧
    (start ≤ count → b = 0 → tfMaybeGraftG (normedOps E) count start false g b = 0) ∧
    (count < start → ∀ masked, tfMaybeGraftG (normedOps E) count start masked g b = g) ∧
    tfMaybeGraftG (normedOps E) count start true g b = g := by
  refine ⟨?_, ?_, ?_, ?_, ?_⟩
  · intro hc hb
    exact tfMaybeGraftG_nrm (normedOps_normLike E) hc g b (norm_pos_iff.mpr hb)
  · intro hc hb
    have hpos : 0 < ‖b‖ := norm_pos_iff.mpr hb
    refine ⟨?_, div_nonneg (norm_nonneg g) hpos.le⟩
    rw [tfMaybeGraftG_run hc, normedOps_smul, normedOps_nrm, normedOps_nrm, tfMultiplier_pos hpos]
  · intro hc hb
    have h0 : (normedOps E).nrm b = 0 := by rw [normedOps_nrm, hb, norm_zero]
    rw [tfMaybeGraftG_null (normedOps_normLike E) hc g b h0, hb]
  · intro hc masked
    exact tfMaybeGraftG_warmup count start masked hc g b
  · exact tfMaybeGraftG_masked count start g b

end Normed

/-! Non-vacuity: every dimension `n`, Euclidean norm. -/
example (n : ℕ) (graft p : EuclideanSpace ℝ (Fin n)) (hp : p ≠ 0) :
    0 ≤ ‖graft‖ - ‖dsShampooG (normedOps _) (1e-25 : ℝ) graft p‖ ∧
      ‖graft‖ - ‖dsShampooG (normedOps _) (1e-25 : ℝ) graft p‖ ≤ ‖graft‖ * 1e-25 / ‖p‖ :=
  ds_graft_norm_gap _ (by norm_num) graft p hp

example : ‖dsShampooG (normedOps ℝ) (1 : ℝ) (3 : ℝ) (4 : ℝ)‖ = 12 / 5 := by
  rw [ds_graft_norm 1 (by norm_num)]; norm_num

example : ‖tfMaybeGraftG (normedOps ℝ) 5 2 false (3 : ℝ) (-4 : ℝ)‖ = 3 := by
  have h := (tearfree_graft_exact 5 2 (3 : ℝ) (-4 : ℝ)).1 (by norm_num) (by norm_num)
  simpa using h

section ListModel
variable {α : Type} [Field α] [LinearOrder α] [IsStrictOrderedRing α]

/-- Direction, list model: `upd = p * c` with `c = ‖graft‖/(‖p‖+ε) ≥ 0`. -/
theorem ds_graft_direction_list {sqrt : α → α} (hs : SqrtSpec sqrt) (ε : α) (hε : 0 ≤ ε)
    (graft p : List α) :
    dsShampooG (listOps sqrt) ε graft p = scale (norm sqrt graft / (norm sqrt p + ε)) p ∧
      0 ≤ norm sqrt graft / (norm sqrt p + ε) :=
  ⟨rfl, dsMultiplier_nonneg hε (norm_nonneg' hs graft) (norm_nonneg' hs p)⟩

/-- Norm, list model, with the gap bounds and the zero case. -/
theorem ds_graft_norm_list {sqrt : α → α} (hs : SqrtSpec sqrt) (ε : α) (hε : 0 < ε)
    (graft p : List α) :
    norm sqrt (dsShampooG (listOps sqrt) ε graft p)
        = norm sqrt graft * norm sqrt p / (norm sqrt p + ε) ∧
    0 ≤ norm sqrt graft - norm sqrt (dsShampooG (listOps sqrt) ε graft p) ∧
    (0 < norm sqrt p →
      norm sqrt graft - norm sqrt (dsShampooG (listOps sqrt) ε graft p)
        ≤ norm sqrt graft * ε / norm sqrt p) ∧
    ((∀ x ∈ p, x = 0) → dsShampooG (listOps sqrt) ε graft p = p) := by
  have hN := listOps_normLike hs
  exact ⟨dsShampooG_nrm hN hε.le graft p, (dsShampooG_gap hN hε graft p).1, (dsShampooG_gap hN hε graft p).2,
    fun hz => dsShampooG_null hN ε graft p ((norm_eq_zero_iff hs p).mpr hz)⟩

/-- Before the start step the update of `_transform_grad` is the graft step (times the `lr` factors),
whatever the preconditioned gradient, the skip flag and the square-root function are. -/
theorem ds_transform_warmup (sqrt : α → α) (nc : Nat → α) (c : DSConfig α) (step : Nat)
    (skip : Bool) (g acc precond : List α) (hacc : acc.length = g.length)
    (hp : precond.length = g.length) (hw : step < c.start) :
    (dsTransform sqrt nc c step skip g acc precond).1
      = finalScale (momentumMultiplier c)
          (scale (precondMultiplier c) (dsGraftStep sqrt nc c g acc).1) :=
  dsApplyGraft_warmup sqrt c skip _ precond (fun _ => hp.trans (dsGraftStep_length _ _ _ _ _ hacc).symm) hw

/-- From the start step on, for a preconditioned parameter and a grafting type other than NONE, the update is
`-(mm·m)` times the preconditioned gradient with `m = ‖graft‖/(‖p‖+ε) ≥ 0`, and its norm is
`|mm|·‖graft‖·‖p‖/(‖p‖+ε)` where `graft` is the (lr-coupled) graft step. -/
theorem ds_transform_after_start {sqrt : α → α} (hs : SqrtSpec sqrt) (nc : Nat → α) (c : DSConfig α)
    (step : Nat) (g acc precond : List α) (hacc : acc.length = g.length)
    (hp : precond.length = g.length) (hstart : c.start ≤ step) (ht : c.graftType ≠ .none)
    (hε : 0 ≤ c.eps) :
    let graft := scale (precondMultiplier c) (dsGraftStep sqrt nc c g acc).1
    let m := norm sqrt graft / (norm sqrt precond + c.eps)
    (dsTransform sqrt nc c step false g acc precond).1
        = scale (-(momentumMultiplier c * m)) precond ∧
      0 ≤ m ∧
      norm sqrt (dsTransform sqrt nc c step false g acc precond).1
        = |momentumMultiplier c| * (norm sqrt graft * norm sqrt precond / (norm sqrt precond + c.eps)) := by
  intro graft m
  have hout : (dsTransform sqrt nc c step false g acc precond).1 = scale (-(momentumMultiplier c * m)) precond :=
    dsApplyGraft_run sqrt c false _ precond
      (fun _ => hp.trans (dsGraftStep_length _ _ _ _ _ hacc).symm) hstart ht
  exact ⟨hout, dsMultiplier_nonneg hε (norm_nonneg' hs graft) (norm_nonneg' hs precond),
    hout ▸ norm_scale_transplant hs _ _ hε graft precond⟩

/-- A parameter excluded from preconditioning: from the start step on the update is the (lr-coupled) graft step
scaled by `-(mm·‖graft‖/(‖graft‖+ε))`; before it `ds_transform_warmup` applies. -/
theorem ds_skipped_is_graft_list (sqrt : α → α) (nc : Nat → α) (c : DSConfig α)
    (step : Nat) (g acc precond : List α)
    (hstart : c.start ≤ step) (ht : c.graftType ≠ .none) :
    let graft := scale (precondMultiplier c) (dsGraftStep sqrt nc c g acc).1
    (dsTransform sqrt nc c step true g acc precond).1
      = scale (-(momentumMultiplier c * (norm sqrt graft / (norm sqrt graft + c.eps)))) graft :=
  dsApplyGraft_run sqrt c true _ precond (fun h => by cases h) hstart ht

omit [LinearOrder α] [IsStrictOrderedRing α] in
/-- The two `lr` factors always multiply to `lr`: the norm of the update is `lr` times the norm of the graft
optimizer's own step in both the coupled and the decoupled mode. -/
theorem ds_lr_factors (c : DSConfig α) : momentumMultiplier c * precondMultiplier c = c.lr := by
  unfold momentumMultiplier precondMultiplier
  cases c.decoupledLr <;> simp

/-- Tearfree, list model. -/
theorem tearfree_graft_exact_list {sqrt : α → α} (hs : SqrtSpec sqrt) (count start : Nat)
    (g b : List α) :
    (start ≤ count → 0 < norm sqrt b →
        norm sqrt (tfMaybeGraft sqrt count start false g b) = norm sqrt g) ∧
    (start ≤ count → (∀ x ∈ b, x = 0) → tfMaybeGraft sqrt count start false g b = b) ∧
    (count < start → ∀ masked, tfMaybeGraft sqrt count start masked g b = g) ∧
    tfMaybeGraft sqrt count start true g b = g := by
  have hN := listOps_normLike hs
  refine ⟨?_, ?_, ?_, ?_⟩
  · intro hc hb; exact tfMaybeGraftG_nrm hN hc g b hb
  · intro hc hz
    exact tfMaybeGraftG_null hN hc g b ((norm_eq_zero_iff hs b).mpr hz)
  · intro hc masked; exact tfMaybeGraftG_warmup count start masked hc g b
  · exact tfMaybeGraftG_masked count start g b

/-- The executable one-leaf Tearfree update (`tfTransform`, momentum and weight decay off): before the start step
and for masked leaves it is `-lr` times the graft optimizer's step; from the start step on, for an unmasked leaf
with non-zero second-order update `b`, it is a multiple of `b` whose norm is `|lr|` times the graft step's norm;
and it is the zero vector (`b` itself scaled) when `b` is zero. -/
theorem tearfree_transform_list {sqrt : α → α} (hs : SqrtSpec sqrt) (gt : TFGraftType) (decay eps lr : α)
    (count start : Nat) (g acc b : List α) :
    let gs := (tfGraftStep sqrt gt decay eps acc g).1
    (count < start → ∀ masked, (tfTransform sqrt gt decay eps lr count start masked g acc b).1 = tfFinal lr gs) ∧
    (tfTransform sqrt gt decay eps lr count start true g acc b).1 = tfFinal lr gs ∧
    (start ≤ count → 0 < norm sqrt b →
      norm sqrt (tfTransform sqrt gt decay eps lr count start false g acc b).1 = |lr| * norm sqrt gs ∧
      (tfTransform sqrt gt decay eps lr count start false g acc b).1
        = scale (-(lr * (norm sqrt gs / norm sqrt b))) b) ∧
    (start ≤ count → (∀ x ∈ b, x = 0) →
      (tfTransform sqrt gt decay eps lr count start false g acc b).1 = b) := by
  intro gs
  exact ⟨fun hc masked => tfApplyGraft_warmup sqrt lr hc masked gs b, tfApplyGraft_masked sqrt lr count start gs b,
    fun hc hb => ⟨norm_tfApplyGraft_run hs lr hc gs b hb, tfApplyGraft_run sqrt lr hc gs b hb⟩,
    fun hc hz => tfApplyGraft_null sqrt lr hc gs b hz⟩

end ListModel

/-! Non-vacuity at ℝ with `Real.sqrt`: no residual hypothesis. -/
example (c : DSConfig ℝ) (nc : Nat → ℝ) (step : Nat) (g acc precond : List ℝ)
    (hacc : acc.length = g.length) (hp : precond.length = g.length) (hstart : c.start ≤ step)
    (ht : c.graftType ≠ .none) (hε : 0 ≤ c.eps) :
    0 ≤ norm Real.sqrt (scale (precondMultiplier c) (dsGraftStep Real.sqrt nc c g acc).1)
          / (norm Real.sqrt precond + c.eps) :=
  (ds_transform_after_start realSqrtSpec nc c step g acc precond hacc hp hstart ht hε).2.1

example : ∃ c : DSConfig ℝ, c.graftType ≠ .none ∧ 0 ≤ c.eps ∧ c.start ≤ 3 :=
  ⟨⟨.adagrad, 1, 1e-10, 1e-25, 1/2, true, none, 2⟩, by decide, by norm_num, by norm_num⟩

/-- `_skip_preconditioning`: exactly the parameters of rank below the threshold or with a dimension above the limit. -/
theorem ds_skip_iff (rankLt dimGt : Nat) (shape : List Nat) :
    dsSkip rankLt dimGt shape = true ↔ shape.length < rankLt ∨ ∃ s ∈ shape, dimGt < s := by
  simp [dsSkip, List.any_eq_true]

/-- Tearfree `_mask_skipped`. -/
theorem tearfree_mask_iff (rank1 : Bool) (anyDimGt : Nat) (shape : List Nat) :
    tfMaskSkipped rank1 anyDimGt shape = true ↔
      (rank1 = true ∧ shape.length ≤ 1) ∨ ∃ s ∈ shape, anyDimGt < s := by
  simp [tfMaskSkipped, List.any_eq_true]

example : dsSkip 2 4096 [5] = true ∧ dsSkip 1 4096 [5] = false ∧ dsSkip 1 8 [9, 4] = true ∧
    tfMaskSkipped true 4096 [5] = true ∧ tfMaskSkipped false 4096 [5] = false ∧ tfMaskSkipped false 5 [6, 2] = true := by
  decide

/-- Non-vacuity of `tearfree_transform_list` at ℝ: SGD graft `g = (3,4)`, second-order update `b = (0,-2)`, `lr = 1/2`:
the update has norm `|lr|·‖g‖`. -/
example : norm Real.sqrt (tfTransform Real.sqrt .sgd (0 : ℝ) 0 (1 / 2) 3 1 false [3, 4] [0, 0] [0, -2]).1
    = |(1 / 2 : ℝ)| * norm Real.sqrt [3, 4] := by
  have hb : 0 < norm Real.sqrt [(0 : ℝ), -2] := by
    have h0 := norm_nonneg' realSqrtSpec [(0 : ℝ), -2]
    rcases h0.lt_or_eq with h | h
    · exact h
    · have := (norm_eq_zero_iff realSqrtSpec [(0 : ℝ), -2]).mp h.symm (-2) (by simp)
      norm_num at this
  exact ((tearfree_transform_list realSqrtSpec .sgd (0 : ℝ) 0 (1 / 2) 3 1 [3, 4] [0, 0] [0, -2]).2.2.1
    (by norm_num) hb).1

section Closed
variable {α : Type} [Field α]

/-- RMSProp-style accumulator of Distributed Shampoo after the history `hist` (oldest first), coordinate `i`:
`β^T·a₀ + w₂·Σ_{k<T} β^(T-1-k)·g_k[i]²`. -/
theorem rmsprop_acc_closed_form (β w2 : α) (i : Nat) (hist : List (List α)) (acc0 : List α) (a0 : α)
    (h0 : acc0[i]? = some a0) (hl : ∀ g ∈ hist, i < g.length) :
    (accRun β w2 acc0 hist)[i]? = some
      (β ^ hist.length * a0
        + w2 * ∑ k ∈ Finset.range hist.length,
            β ^ (hist.length - 1 - k) * ((hist.getD k []).getD i 0) ^ 2) := by
  have h := accRun_map_getElem? β w2 id (fun _ => rfl) i hist acc0 a0 h0 hl
  simp only [List.map_id, id] at h
  exact h

/-- AdaGrad accumulator: `a₀ + Σ_k g_k[i]²`. -/
theorem adagrad_acc_closed_form (i : Nat) (hist : List (List α)) (acc0 : List α) (a0 : α)
    (h0 : acc0[i]? = some a0) (hl : ∀ g ∈ hist, i < g.length) :
    (accRun 1 1 acc0 hist)[i]? = some
      (a0 + ∑ k ∈ Finset.range hist.length, ((hist.getD k []).getD i 0) ^ 2) := by
  rw [rmsprop_acc_closed_form 1 1 i hist acc0 a0 h0 hl]
  simp only [one_pow, one_mul]

/-- Tearfree RMSProp accumulator (its own operation order) has the same closed form with
`w₂ = 1` for `decay = 1` and `1 - decay` otherwise. -/
theorem tearfree_rmsprop_acc_closed_form [DecidableEq α] (decay : α) (i : Nat)
    (hist : List (List α)) (acc0 : List α) (a0 : α)
    (h0 : acc0[i]? = some a0) (hl : ∀ g ∈ hist, i < g.length) :
    (tfAccRun decay acc0 hist)[i]? = some
      (decay ^ hist.length * a0
        + dsW2 decay * ∑ k ∈ Finset.range hist.length,
            decay ^ (hist.length - 1 - k) * ((hist.getD k []).getD i 0) ^ 2) := by
  rw [tfAccRun_eq]
  exact rmsprop_acc_closed_form decay (dsW2 decay) i hist acc0 a0 h0 hl

end Closed

section Variants
variable {α : Type} [Field α] [LinearOrder α] [IsStrictOrderedRing α]

/-- Closed form of the AdaGrad graft step of Distributed Shampoo after the history `hist` followed by the
current gradient `g`, coordinate `i`: `g[i] / (sqrt(a₀ + Σ_k g_k[i]²) + diagonal_epsilon)`. -/
theorem adagrad_step_closed_form {α : Type} [Field α] [LinearOrder α] [IsStrictOrderedRing α]
    (sqrt : α → α) (nc : Nat → α) (c : DSConfig α) (hc : c.graftType = .adagrad) (i : Nat)
    (hist : List (List α)) (g acc0 : List α) (a0 : α) (h0 : acc0[i]? = some a0)
    (hl : ∀ g' ∈ hist ++ [g], i < g'.length) :
    (dsGraftStep sqrt nc c g (accRun 1 1 acc0 hist)).1[i]? = some
      (g.getD i 0 /
        (sqrt (a0 + ∑ k ∈ Finset.range (hist ++ [g]).length,
            (((hist ++ [g]).getD k []).getD i 0) ^ 2) + c.diagEps)) := by
  have h := diagStep_accRun_getElem? sqrt c.diagEps 1 1 id (fun _ => rfl) i hist g acc0 a0 h0 hl
  simp only [List.map_id, id, one_pow, one_mul] at h
  rw [dsGraftStep_adagrad sqrt nc c hc]
  exact h

/-- Closed form of the RMSProp graft step of Distributed Shampoo (no clipping) after the history `hist` followed by the
current gradient `g`, coordinate `i`: `g[i] / (sqrt(β^T·a₀ + w₂·Σ_k β^(T-1-k)·g_k[i]²) + diagonal_epsilon)` with
`w₂ = dsW2 β` (`1` for `β = 1`, else `1 - β`). -/
theorem rmsprop_step_closed_form {α : Type} [Field α] [LinearOrder α] [IsStrictOrderedRing α]
    (sqrt : α → α) (nc : Nat → α) (c : DSConfig α) (hc : c.graftType = .rmsprop) (hcl : c.clip = none) (i : Nat)
    (hist : List (List α)) (g acc0 : List α) (a0 : α) (h0 : acc0[i]? = some a0)
    (hl : ∀ g' ∈ hist ++ [g], i < g'.length) :
    (dsGraftStep sqrt nc c g (accRun c.beta2 (dsW2 c.beta2) acc0 hist)).1[i]? = some
      (g.getD i 0 /
        (sqrt (c.beta2 ^ (hist ++ [g]).length * a0
          + dsW2 c.beta2 * ∑ k ∈ Finset.range (hist ++ [g]).length,
              c.beta2 ^ ((hist ++ [g]).length - 1 - k) * (((hist ++ [g]).getD k []).getD i 0) ^ 2)
          + c.diagEps)) := by
  have h := diagStep_accRun_getElem? sqrt c.diagEps c.beta2 (dsW2 c.beta2) id (fun _ => rfl) i hist g acc0 a0 h0 hl
  simp only [List.map_id, id] at h
  rw [dsGraftStep_rmsprop sqrt nc c hc hcl]
  exact h

example : (accRun (1 : ℚ) 1 [0, 0] [[1, 2], [3, 4]])[1]? = some (0 + (2 ^ 2 + 4 ^ 2)) := by
  rw [adagrad_acc_closed_form 1 [[1, 2], [3, 4]] [0, 0] 0 rfl (by decide)]
  simp [Finset.sum_range_succ]

/-- ADAGRAD_NORMALIZED: every gradient is divided by (its norm + `_EPSILON`) BEFORE it enters the accumulator; the step
after the history `hist` followed by `g`, coordinate `i`, is
`(g[i]/(‖g‖+ε)) / (sqrt(a₀ + Σ_k (g_k[i]/(‖g_k‖+ε))²) + diagonal_epsilon)`. -/
theorem adagrad_normalized_step_closed_form (sqrt : α → α) (nc : Nat → α) (c : DSConfig α)
    (hc : c.graftType = .adagradNormalized) (i : Nat)
    (hist : List (List α)) (g acc0 : List α) (a0 : α) (h0 : acc0[i]? = some a0)
    (hl : ∀ g' ∈ hist ++ [g], i < g'.length) :
    (dsGraftStep sqrt nc c g (accRun 1 1 acc0 (hist.map (normalize sqrt c.eps)))).1[i]? = some
      (g.getD i 0 / (norm sqrt g + c.eps) /
        (sqrt (a0 + ∑ k ∈ Finset.range (hist ++ [g]).length,
            (((hist ++ [g]).getD k []).getD i 0 / (norm sqrt ((hist ++ [g]).getD k []) + c.eps)) ^ 2)
          + c.diagEps)) := by
  have h := diagStep_accRun_getElem? sqrt c.diagEps 1 1 (normalize sqrt c.eps) (normalize_length sqrt c.eps) i hist g
    acc0 a0 h0 hl
  simp only [normalize_getD, one_pow, one_mul] at h
  rw [dsGraftStep_adagradNormalized sqrt nc c hc]
  exact h

/-- RMSPROP_NORMALIZED (no clipping): the same with the decayed accumulator. -/
theorem rmsprop_normalized_step_closed_form (sqrt : α → α) (nc : Nat → α) (c : DSConfig α)
    (hc : c.graftType = .rmspropNormalized) (hcl : c.clip = none) (i : Nat)
    (hist : List (List α)) (g acc0 : List α) (a0 : α) (h0 : acc0[i]? = some a0)
    (hl : ∀ g' ∈ hist ++ [g], i < g'.length) :
    (dsGraftStep sqrt nc c g
        (accRun c.beta2 (dsW2 c.beta2) acc0 (hist.map (normalize sqrt c.eps)))).1[i]? = some
      (g.getD i 0 / (norm sqrt g + c.eps) /
        (sqrt (c.beta2 ^ (hist ++ [g]).length * a0
          + dsW2 c.beta2 * ∑ k ∈ Finset.range (hist ++ [g]).length,
              c.beta2 ^ ((hist ++ [g]).length - 1 - k) *
                (((hist ++ [g]).getD k []).getD i 0 / (norm sqrt ((hist ++ [g]).getD k []) + c.eps)) ^ 2)
          + c.diagEps)) := by
  have h := diagStep_accRun_getElem? sqrt c.diagEps c.beta2 (dsW2 c.beta2) (normalize sqrt c.eps)
    (normalize_length sqrt c.eps) i hist g acc0 a0 h0 hl
  simp only [normalize_getD] at h
  rw [dsGraftStep_rmspropNormalized sqrt nc c hc hcl]
  exact h

/-- SQRT_N (`jnp.ones_like(g) * jnp.sign(g)`): the step is the sign vector whatever the history, the accumulator is
untouched, and when no coordinate of `g` is zero its norm is `sqrt(n)` — hence the name. -/
theorem sqrt_n_step_closed_form (sqrt : α → α) (nc : Nat → α) (c : DSConfig α)
    (hc : c.graftType = .sqrtN) (g acc : List α) :
    (dsGraftStep sqrt nc c g acc).1 = g.map (fun x => 1 * sgn x) ∧
    (dsGraftStep sqrt nc c g acc).2 = acc ∧
    (∀ i, i < g.length → (dsGraftStep sqrt nc c g acc).1[i]? = some (sgn (g.getD i 0))) ∧
    ((∀ x ∈ g, x ≠ 0) → norm sqrt (dsGraftStep sqrt nc c g acc).1 = sqrt (g.length : α)) := by
  have h1 : (dsGraftStep sqrt nc c g acc).1 = g.map (fun x => 1 * sgn x) := by
    rw [dsGraftStep_sqrtN sqrt nc c hc]
  have h2 : (dsGraftStep sqrt nc c g acc).2 = acc := by
    rw [dsGraftStep_sqrtN sqrt nc c hc]
  refine ⟨h1, h2, ?_, ?_⟩
  · intro i hi
    rw [h1, List.getElem?_map, getElem?_eq_some_getD hi 0, Option.map_some, one_mul]
  · intro hnz
    rw [h1]; unfold Graft.norm; rw [sumSq_map_sgn g hnz]

/-- Clipped RMSProp (`clip_by_scaled_gradient_norm = cl`), plain or normalised: the unclipped step `u` (closed forms
`rmsprop_step_closed_form` / `rmsprop_normalized_step_closed_form` for the configuration with `clip := none`) divided by
`max(1, (‖u‖ / sqrt(n)) / cl)`, `n` the number of entries; the accumulator is the unclipped one. -/
theorem rmsprop_clipped_step_closed_form (sqrt : α → α) (nc : Nat → α) (c : DSConfig α)
    (hc : c.graftType = .rmsprop ∨ c.graftType = .rmspropNormalized) (cl : α) (hcl : c.clip = some cl)
    (g acc : List α) :
    let u := (dsGraftStep sqrt nc { c with clip := none } g acc).1
    let d := max 1 (norm sqrt u / sqrt (nc u.length) / cl)
    (dsGraftStep sqrt nc c g acc).1 = scale (1 / d) u ∧
    (dsGraftStep sqrt nc c g acc).2 = (dsGraftStep sqrt nc { c with clip := none } g acc).2 ∧
    (∀ (i : Nat) (ui : α), u[i]? = some ui → (dsGraftStep sqrt nc c g acc).1[i]? = some (ui / d)) := by
  intro u d
  have h := dsGraftStep_clip sqrt nc c hc cl hcl g acc
  have h1 : (dsGraftStep sqrt nc c g acc).1 = scale (1 / d) u := by
    rw [h]; exact clipScaled_eq_scale sqrt nc cl u
  refine ⟨h1, by rw [h], ?_⟩
  intro i ui hui
  rw [h1]; unfold scale
  rw [List.getElem?_map, hui]
  simp [div_eq_mul_inv]

/-- What the clipping achieves (`SqrtSpec`): the clipped step is the unclipped one when its scaled norm
`‖u‖/sqrt(n)` is at most `cl`, and otherwise its norm is exactly `cl·sqrt(n)`. -/
theorem rmsprop_clip_norm {sqrt : α → α} (hs : SqrtSpec sqrt) (nc : Nat → α) (cl : α) (hcl : 0 < cl)
    (u : List α) (hn : 0 < sqrt (nc u.length)) :
    (norm sqrt u / sqrt (nc u.length) / cl ≤ 1 → clipScaled sqrt nc cl u = u) ∧
    (1 ≤ norm sqrt u / sqrt (nc u.length) / cl →
      norm sqrt (clipScaled sqrt nc cl u) = cl * sqrt (nc u.length)) := by
  constructor
  · intro h
    rw [clipScaled_eq_scale, max_eq_left h]
    unfold scale
    simp only [div_one, mul_one, List.map_id']
  · intro h
    rw [clipScaled_eq_scale, max_eq_right h, norm_scale hs]
    have hr : 0 < norm sqrt u / sqrt (nc u.length) / cl := lt_of_lt_of_le one_pos h
    have hu : 0 < norm sqrt u := (div_pos_iff_of_pos_right hn).mp ((div_pos_iff_of_pos_right hcl).mp hr)
    rw [abs_of_pos (one_div_pos.mpr hr), div_div, one_div_div, div_mul_cancel₀ _ hu.ne', mul_comm]

/-- The graft accumulator the driver carries from step to step (second component of `dsTransform`, i.e. of
`dsGraftStep`) after a whole history is `accRun` over the history of the gradients AS THE GRAFT TYPE SEES THEM:
normalised for the `_NORMALIZED` types; it never moves for SGD / SQRT_N / NONE. Clipping does not enter it. -/
theorem graft_accumulator_history (sqrt : α → α) (nc : Nat → α) (c : DSConfig α) (acc0 : List α)
    (hist : List (List α)) :
    hist.foldl (fun acc g => (dsGraftStep sqrt nc c g acc).2) acc0 =
      match c.graftType with
      | .adagrad => accRun 1 1 acc0 hist
      | .adagradNormalized => accRun 1 1 acc0 (hist.map (normalize sqrt c.eps))
      | .rmsprop => accRun c.beta2 (dsW2 c.beta2) acc0 hist
      | .rmspropNormalized => accRun c.beta2 (dsW2 c.beta2) acc0 (hist.map (normalize sqrt c.eps))
      | _ => acc0 := by
  induction hist generalizing acc0 with
  | nil => cases hg : c.graftType <;> simp [accRun]
  | cons g hist ih =>
    rw [List.foldl_cons, ih]
    cases hg : c.graftType <;> simp [dsGraftStep, hg, accRun]

end Variants

section Wrapper
variable {α : Type} [Field α] [LinearOrder α] [IsStrictOrderedRing α]

/-- `dsTransform` is the wrapper `dsApplyGraft` around the closed-form step; the wrapper itself never looks inside `s`. -/
theorem ds_transform_is_wrapper (sqrt : α → α) (nc : Nat → α) (c : DSConfig α) (step : Nat) (skip : Bool)
    (g acc precond : List α) :
    (dsTransform sqrt nc c step skip g acc precond).1
      = dsApplyGraft sqrt c step skip (dsGraftStep sqrt nc c g acc).1 precond := rfl

/-- Distributed Shampoo, ANY graft step vector `s` (opaque: nothing is assumed about how it was computed):
before the start step the update is `s` (times the lr factors) whatever `p` and the skip flag are; from the start step
on, for a preconditioned parameter and a graft type other than NONE, it is `(‖s'‖/(‖p‖+ε))·p` (times `-mm`) with
`s' = pm·s` the lr-coupled step, and its norm is `|mm|·‖s'‖·‖p‖/(‖p‖+ε)`; for an excluded parameter it is
`(‖s'‖/(‖s'‖+ε))·s'`. -/
theorem ds_wrapper_any_graft_step {sqrt : α → α} (hs : SqrtSpec sqrt) (c : DSConfig α) (step : Nat)
    (s precond : List α) (hp : precond.length = s.length) (hε : 0 ≤ c.eps) :
    let s' := scale (precondMultiplier c) s
    (step < c.start → ∀ skip, dsApplyGraft sqrt c step skip s precond = finalScale (momentumMultiplier c) s') ∧
    (c.start ≤ step → c.graftType ≠ .none →
      dsApplyGraft sqrt c step false s precond
        = scale (-(momentumMultiplier c * (norm sqrt s' / (norm sqrt precond + c.eps)))) precond ∧
      0 ≤ norm sqrt s' / (norm sqrt precond + c.eps) ∧
      norm sqrt (dsApplyGraft sqrt c step false s precond)
        = |momentumMultiplier c| * (norm sqrt s' * norm sqrt precond / (norm sqrt precond + c.eps))) ∧
    (c.start ≤ step → c.graftType ≠ .none →
      dsApplyGraft sqrt c step true s precond
        = scale (-(momentumMultiplier c * (norm sqrt s' / (norm sqrt s' + c.eps)))) s') := by
  intro s'
  refine ⟨fun hw skip => dsApplyGraft_warmup sqrt c skip s precond (fun _ => hp) hw, fun hstart ht => ?_,
    fun hstart ht => dsApplyGraft_run sqrt c true s precond (fun h => by cases h) hstart ht⟩
  have hout := dsApplyGraft_run sqrt c false s precond (fun _ => hp) hstart ht
  exact ⟨hout, dsMultiplier_nonneg hε (norm_nonneg' hs s') (norm_nonneg' hs precond),
    hout ▸ norm_scale_transplant hs _ _ hε s' precond⟩

/-- Tearfree, ANY graft step vector `s` (SGD, RMSProp, or optax's ADAFACTOR — opaque): before the start step and for a
masked leaf the update is `s` (times `-lr`); from the start step on, for an unmasked leaf with non-zero second-order
update `b`, it is `(‖s‖/‖b‖)·b` (times `-lr`) and has norm `|lr|·‖s‖`; it is zero when `b` is zero. -/
theorem tearfree_wrapper_any_graft_step {sqrt : α → α} (hs : SqrtSpec sqrt) (lr : α) (count start : Nat)
    (s b : List α) :
    (count < start → ∀ masked, tfApplyGraft sqrt lr count start masked s b = tfFinal lr s) ∧
    tfApplyGraft sqrt lr count start true s b = tfFinal lr s ∧
    (start ≤ count → 0 < norm sqrt b →
      tfApplyGraft sqrt lr count start false s b = scale (-(lr * (norm sqrt s / norm sqrt b))) b ∧
      norm sqrt (tfApplyGraft sqrt lr count start false s b) = |lr| * norm sqrt s) ∧
    (start ≤ count → (∀ x ∈ b, x = 0) → tfApplyGraft sqrt lr count start false s b = b) :=
  ⟨fun hc masked => tfApplyGraft_warmup sqrt lr hc masked s b, tfApplyGraft_masked sqrt lr count start s b,
    fun hc hb => ⟨tfApplyGraft_run sqrt lr hc s b hb, norm_tfApplyGraft_run hs lr hc s b hb⟩,
    fun hc hz => tfApplyGraft_null sqrt lr hc s b hz⟩

end Wrapper

/-- The same wrapper statement in ANY real normed space, with the arithmetic selection of the code
(`run·shampoo + (1 - run)·graft`, `run = 1` from the start step on, else `0`) and an arbitrary graft vector `s`. -/
theorem ds_wrapper_any_graft_step_normed {E : Type} [NormedAddCommGroup E] [NormedSpace ℝ E]
    (ε : ℝ) (step start : Nat) (s p : E) :
    let run : ℝ := runShampoo step start
    let upd := fun skip => run • dsShampooG (normedOps E) ε s (dsPrecondGrad skip s p) + (1 - run) • s
    (step < start → ∀ skip, upd skip = s) ∧
    (start ≤ step → upd false = (‖s‖ / (‖p‖ + ε)) • p) ∧
    (start ≤ step → upd true = (‖s‖ / (‖s‖ + ε)) • s) := by
  intro run upd
  have hrun : start ≤ step → ∀ skip, upd skip = dsShampooG (normedOps E) ε s (dsPrecondGrad skip s p) := by
    intro h skip
    show run • _ + (1 - run) • s = _
    rw [show run = 1 from runShampoo_of_le h, one_smul, sub_self, zero_smul, add_zero]
  refine ⟨fun h skip => ?_, fun h => hrun h false, fun h => hrun h true⟩
  show run • _ + (1 - run) • s = s
  rw [show run = 0 from runShampoo_of_lt h, zero_smul, sub_zero, one_smul, zero_add]

/-! Non-vacuity of the closed forms and of the wrapper at ℚ / ℝ. -/
example : (dsGraftStep (fun x : ℚ => x) (fun n => (n : ℚ))
    ⟨.sqrtN, 1, 0, 0, 1, true, none, 0⟩ [3, -2, 5] [0, 0, 0]).1 = [1, -1, 1] := by decide +kernel

example (c : DSConfig ℝ) (step : Nat) (s precond : List ℝ) (hp : precond.length = s.length) (hε : 0 ≤ c.eps)
    (hstart : c.start ≤ step) (ht : c.graftType ≠ .none) :
    norm Real.sqrt (dsApplyGraft Real.sqrt c step false s precond)
      = |momentumMultiplier c| * (norm Real.sqrt (scale (precondMultiplier c) s) * norm Real.sqrt precond
          / (norm Real.sqrt precond + c.eps)) :=
  ((ds_wrapper_any_graft_step realSqrtSpec c step s precond hp hε).2.1 hstart ht).2.2

end PrecondVerif.C05
