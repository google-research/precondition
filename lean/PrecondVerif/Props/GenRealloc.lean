/-
C17 — the per-dimension allocation of `create_redist_dict` as regenerated from the source equals the hand-written
model, and the budget theorems hold for it directly, for any arithmetic.  Helper lemmas: `Lemmas/GenBridgeRealloc.lean`.
Built by the C17 check through `lean_stage(extra_props=("GenRealloc",))`.
-/
import PrecondVerif.Lemmas.GenBridgeRealloc

namespace PrecondVerif.GenProps.C17
open PrecondVerif PrecondVerif.Gen PrecondVerif.GenRealloc

/-- **Bridge.** For every opaque arithmetic `ops`, dimension `d`, base rank `k` and group (list of `(key, score)` in
group order, keys distinct): the translated loop body of `for dim in group_dict:` returns exactly what the hand
model `Realloc.groupRun` returns — the same ranks in sorted order, or `none` exactly when the model reports one of
the three failed `assert`s. -/
theorem redist_group_bridge {R : Type} (ops : Py.RealOps R) (d : Nat) (k : Int) (group : List (Int × R))
    (hnd : (group.map Prod.fst).Nodup) :
    redistGroup ops (d : Int) k group = outcome (modelRun ops k d group) :=
  -- `modelRun` is `Realloc.groupRun` at the `+`, `0`, `<` read off `ops`, which `ops` agrees with by definition
  @redistGroup_eq R ops (instAdd ops) (instZero ops) (instLT ops) (instDec ops) (fun _ _ => rfl) rfl
    (fun _ _ => Bool.decide_eq_true.symm) d k group hnd

/-- **Budget for any arithmetic, about the code as translated today** (`C17.budget_any_arithmetic` transported):
whatever `+ * / floor <` do — rounding, overflow, NaN — if the translated body returns ranks, they are the group's
keys, each rank is at most the dimension, and their sum is at most `size × sketchy_rank`. -/
theorem gen_budget_any_arithmetic {R : Type} (ops : Py.RealOps R) (d : Nat) (k : Int) (group : List (Int × R))
    (hnd : (group.map Prod.fst).Nodup) (res : List (Int × Int)) (h : redistGroup ops (d : Int) k group = some res) :
    (res.map Prod.fst).Perm (group.map Prod.fst) ∧ (∀ p ∈ res, p.2 ≤ (d : Int)) ∧
      (res.map Prod.snd).sum ≤ (group.length : Int) * k := by
  rw [redist_group_bridge ops d k group hnd, outcome_eq_some] at h
  exact @Realloc.groupRun_budget Int R (instAdd ops) (instZero ops) (instLT ops) (instDec ops) (allocOf ops) k d group res h

/-- The `assert realloc[key] <= dim` of the translated body can never be the reason for `none`: the model it
equals never reports `rankExceedsDim`. -/
theorem gen_rank_assert_never_fails {R : Type} (ops : Py.RealOps R) (d : Nat) (k : Int) (group : List (Int × R))
    (r d' : Int) : modelRun ops k d group ≠ .error (.rankExceedsDim r d') :=
  @Realloc.groupRun_ne_rankExceedsDim Int R (instAdd ops) (instZero ops) (instLT ops) (instDec ops) (allocOf ops) k d group r d'

/-! non-vacuity: exact integer arithmetic as the opaque scalars (`/` as floor division) -/
def intOps : Py.RealOps Int :=
  { add := (· + ·), mul := (· * ·), div := Int.fdiv, ofInt := id, floor := id, truthy := fun x => decide (x ≠ 0),
    lt := fun a b => decide (a < b) }

example : redistGroup intOps 8 4 [(0, 1), (1, 6), (2, 1)] = some [(1, 7), (0, 2), (2, 3)] := by decide
example : redistGroup intOps 8 0 [(0, 1), (1, 6)] = none := by decide

end PrecondVerif.GenProps.C17
