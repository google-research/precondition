/-
C09 — the frequent-directions sketch brackets the true second moment.

Model: `Model/FD.lean` — generic `fdStep` / `stepO` / `fdRunO` (SVD kernel as a parameter constrained by `SvdSpec`),
instances `dsFdUpdateRootO` (Distributed Shampoo `_fd_update_root`), `sketchyUpdateAxisO` (Tearfree Sketchy
`_update_axis`), `ocoFdUpdateO` (OCO `_fd_update_fn`). `Drv/C09.lean` executes exactly these definitions at `Float`;
LAPACK supplies the SVD factors and the driver checks them against `SvdSpec` of the model's own `B` on every step.

All statements hold over every linearly ordered field with trivial star (ℚ, ℝ, …), for every dimension `d`, sketch
rank `k ≤ d`, number of gradient columns `m`, decay `0 ≤ β`, every state and every history; the Loewner order is
Mathlib's `Matrix.PosSemidef`. `sqrt` is a parameter with the specification `sqrt x * sqrt x = x` for `0 ≤ x`
(`Real.sqrt` at ℝ), the SVD a parameter meeting `SvdSpec` on the matrices it is actually called with.

The unit-norm and padding-mass guards of `_fd_update_root` are modelled (`guardNorm`, `guardPad`, `dsFdUpdateRootG`) and
proved to be identities under `SvdSpec` (`ds_guards_are_identities`). Not modelled: floating-point accuracy of the SVD.
-/
import PrecondVerif.Lemmas.FD
import Mathlib.Algebra.Order.Star.Real
import Mathlib.Data.Rat.Star

set_option linter.unusedSectionVars false
set_option linter.overlappingInstances false

namespace PrecondVerif.C09
open PrecondVerif.FD Matrix

section Any
variable {α : Type} [Zero α] [One α] [Add α] [Sub α] [Mul α] [LT α] [DecidableLT α] {d k m : Nat}

/-- **Escaped-mass recurrence** `t' = β·t + ρ` with `ρ = s[k]²` the eigenvalue removed at this step — for any
scalar type (floats included) and any SVD kernel. -/
theorem fd_tail_recurrence (svd : SvdFn α d (k + m)) (sqrt : α → α) (β : α) (st : State α d k) (G : Mat α d m) :
    (fdStep svd sqrt β st G).t = β * st.t + rho k (svd (fdB sqrt β st G)) := rfl

/-- the same recurrence in `_fd_update_root` (before the clamp `where(new_tail <= 0, 0, new_tail)`, which is the
identity on non-negative values), in Sketchy's `_update_axis` and in the OCO sketch. -/
theorem fd_tail_recurrence_instances [Max α] (pw sqrt : α → α) (cfg : DsCfg α) (st : State α d k) (o : SvdOut α d)
    (hps : cfg.ps ≠ 0) (epsilon : α) (relative : Bool) (β : α) (sk : SkState α d k)
    {n : Nat} (oc : OcoState α k n) (oo : SvdOut α n) :
    (dsFdUpdateRootO pw cfg st o).st.t
        = (if 0 < cfg.β * st.t + rho k o then cfg.β * st.t + rho k o else 0) ∧
    (sketchyUpdateAxisO sqrt pw epsilon relative β sk o).st.t
        = sk.t * β + relu (cutoff k o) * relu (cutoff k o) ∧
    (ocoFdUpdateO sqrt oc oo).t = oc.t + rho k oo := by
  refine ⟨?_, rfl, rfl⟩
  simp only [dsFdUpdateRootO, if_neg hps]
  rfl

end Any

section Field
variable {R : Type} [Field R] [LinearOrder R] [IsStrictOrderedRing R] [StarRing R] [TrivialStar R]
  [StarOrderedRing R] {d k m : ℕ}

/-- **One-step bracket.** If `V diag(l) Vᵀ ≤ C ≤ V diag(l) Vᵀ + t·I`, then after one FD step with decay `0 ≤ β`,
gradient factor `G` and ANY SVD meeting its specification on the matrix `B = [√β V diag(√l) | G]` it is given,
`V' diag(l') V'ᵀ ≤ β·C + G Gᵀ ≤ V' diag(l') V'ᵀ + t'·I`, and `l' ≥ 0`, `t' ≥ 0`. -/
theorem fd_step_bracket (svd : SvdFn R d (k + m)) (sqrt : R → R) (hsq : ∀ x, 0 ≤ x → sqrt x * sqrt x = x)
    (β : R) (hβ : 0 ≤ β) (hk : k ≤ d) (st : State R d k) (hl : ∀ a, 0 ≤ st.l a) (ht : 0 ≤ st.t) (G : Mat R d m)
    (hsvd : SvdSpec (fdB sqrt β st G) (svd (fdB sqrt β st G)))
    (C : Matrix (Fin d) (Fin d) R) (hlo : (C - toM (sketch st)).PosSemidef)
    (hhi : (toM (sketch st) + st.t • (1 : Matrix (Fin d) (Fin d) R) - C).PosSemidef) :
    (β • C + toM (outer G) - toM (sketch (fdStep svd sqrt β st G))).PosSemidef ∧
    (toM (sketch (fdStep svd sqrt β st G)) + (fdStep svd sqrt β st G).t • (1 : Matrix (Fin d) (Fin d) R)
      - (β • C + toM (outer G))).PosSemidef ∧
    (∀ a, 0 ≤ (fdStep svd sqrt β st G).l a) ∧ 0 ≤ (fdStep svd sqrt β st G).t := by
  rw [fdStep_eq]
  exact BracketInv.step sqrt hsq β hβ hk ⟨hlo, hhi, hl, ht⟩ G _ hsvd

/-- **Whole-history bracket** (induction over every history, from the zero state): the sketch after any history
`gs` brackets the exact discounted second moment `covFrom β 0 gs` (`C ← β·C + G Gᵀ`), with `l ≥ 0`, `t ≥ 0`. -/
theorem fd_history_bracket (svd : SvdFn R d (k + m)) (sqrt : R → R) (hsq : ∀ x, 0 ≤ x → sqrt x * sqrt x = x)
    (β : R) (hβ : 0 ≤ β) (hk : k ≤ d) (gs : List (Mat R d m))
    (hsvd : SpecAlong svd sqrt β (State.zero d k) gs) :
    (toM (covFrom β (fun _ _ => 0) gs) - toM (sketch (fdRun svd sqrt β gs))).PosSemidef ∧
    (toM (sketch (fdRun svd sqrt β gs)) + (fdRun svd sqrt β gs).t • (1 : Matrix (Fin d) (Fin d) R)
      - toM (covFrom β (fun _ _ => 0) gs)).PosSemidef ∧
    (∀ a, 0 ≤ (fdRun svd sqrt β gs).l a) ∧ 0 ≤ (fdRun svd sqrt β gs).t := by
  rw [fdRun_eq]
  exact fdRunFrom_induction (P := BracketInv) svd sqrt β gs
    (fun G _ _ _ h hC => by rw [fdStep_eq]; exact hC.step sqrt hsq β hβ hk G _ h) (State.zero d k) (fun _ _ => 0) hsvd
    (by rw [toM_zero]; exact bracketInv_zero)

/-- the same for the run the driver executes (`fdRunO`: SVD outputs supplied step by step, each meeting `SvdSpec`
of the model's own `fdB` at that step), from any bracketed state. -/
theorem fd_history_bracket_supplied (sqrt : R → R) (hsq : ∀ x, 0 ≤ x → sqrt x * sqrt x = x)
    (β : R) (hβ : 0 ≤ β) (hk : k ≤ d) (steps : List (Mat R d m × SvdOut R d)) (st : State R d k)
    (hl : ∀ a, 0 ≤ st.l a) (ht : 0 ≤ st.t) (hsvd : SpecAlongO sqrt β st steps)
    (C : Mat R d d) (hlo : (toM C - toM (sketch st)).PosSemidef)
    (hhi : (toM (sketch st) + st.t • (1 : Matrix (Fin d) (Fin d) R) - toM C).PosSemidef) :
    (toM (covFrom β C (steps.map Prod.fst)) - toM (sketch (fdRunO β st (steps.map Prod.snd)))).PosSemidef ∧
    (toM (sketch (fdRunO β st (steps.map Prod.snd)))
      + (fdRunO β st (steps.map Prod.snd)).t • (1 : Matrix (Fin d) (Fin d) R)
      - toM (covFrom β C (steps.map Prod.fst))).PosSemidef := by
  have := fdRunO_induction (P := BracketInv) sqrt β
    (fun G _ o _ h hC => hC.step sqrt hsq β hβ hk G o h) steps st C hsvd ⟨hlo, hhi, hl, ht⟩
  exact ⟨this.1, this.2.1⟩

/-- **Columns orthonormal or zero**: `V'ᵀ V' = diag(kept)`. -/
theorem fd_columns_orthonormal_or_zero (svd : SvdFn R d (k + m)) (sqrt : R → R) (β : R) (hk : k ≤ d)
    (st : State R d k) (G : Mat R d m) (hsvd : SvdSpec (fdB sqrt β st G) (svd (fdB sqrt β st G))) (a b : Fin k) :
    colGram (fdStep svd sqrt β st G).V a b
      = if a = b ∧ kept k (svd (fdB sqrt β st G)) a = true then 1 else 0 := by
  rw [fdStep_eq]
  exact stepO_colGram hsvd.specM hk β st.t a b

/-- **Stored inverse roots** equal `pw (l' + t' + eps)` on the kept directions (0 on the zeroed ones), where
`pw x` stands for `x^(-1/p)`; the escaped mass is inverted as `pw (t' + eps)` when positive. DS uses `eps = 0`
(its ridge enters `l` before the step), Sketchy its (relative) epsilon. -/
theorem fd_inverse_roots (svd : SvdFn R d (k + m)) (sqrt pw : R → R) (eps β : R) (st : State R d k) (G : Mat R d m)
    (a : Fin k) :
    invRoots k pw eps β st.t (svd (fdB sqrt β st G)) a
      = (if kept k (svd (fdB sqrt β st G)) a = true
          then pw ((fdStep svd sqrt β st G).l a + (fdStep svd sqrt β st G).t + eps) else 0) ∧
    invTail pw eps (fdStep svd sqrt β st G).t
      = (if 0 < (fdStep svd sqrt β st G).t then pw ((fdStep svd sqrt β st G).t + eps) else 0) := by
  rw [fdStep_eq]
  exact ⟨invRoots_eq pw eps β st.t _ a, rfl⟩

/-- **Zero-gradient step**: sketch and escaped mass are discounted by the same factor `β`
(`V' diag(l') V'ᵀ = β · V diag(l) Vᵀ`, `t' = β·t`). -/
theorem fd_zero_grad_step (svd : SvdFn R d (k + m)) (sqrt : R → R) (hsq : ∀ x, 0 ≤ x → sqrt x * sqrt x = x)
    (β : R) (hβ : 0 ≤ β) (hk : k ≤ d) (st : State R d k) (hl : ∀ a, 0 ≤ st.l a)
    (hsvd : SvdSpec (fdB sqrt β st (fun _ _ => 0 : Mat R d m)) (svd (fdB sqrt β st (fun _ _ => 0))))  :
    toM (sketch (fdStep svd sqrt β st (fun _ _ => 0 : Mat R d m))) = β • toM (sketch st) ∧
    (fdStep svd sqrt β st (fun _ _ => 0 : Mat R d m)).t = β * st.t := by
  rw [fdStep_eq]
  have hs := hsvd.specM
  rw [gram_fdB sqrt hsq β hβ st hl, outer_zero, add_zero] at hs
  exact stepO_exact_of_rank_le hs hk (sketch_rank_le st β) β st.t

/-- **ext — a history of rank ≤ k is tracked exactly**: if every gradient factor lies in a fixed `k`-dimensional
subspace (`G_i = W A_i`, `W : d × k`), the sketch equals the exact second moment and no mass escapes (`t = 0`). -/
theorem fd_low_rank_exact (svd : SvdFn R d (k + m)) (sqrt : R → R) (hsq : ∀ x, 0 ≤ x → sqrt x * sqrt x = x)
    (β : R) (hβ : 0 ≤ β) (hk : k ≤ d) (W : Matrix (Fin d) (Fin k) R) (gs : List (Mat R d m))
    (hW : ∀ G ∈ gs, ∃ A : Matrix (Fin k) (Fin m) R, toM G = W * A)
    (hsvd : SpecAlong svd sqrt β (State.zero d k) gs) :
    toM (sketch (fdRun svd sqrt β gs)) = toM (covFrom β (fun _ _ => 0) gs) ∧ (fdRun svd sqrt β gs).t = 0 := by
  rw [fdRun_eq]
  have := fdRunFrom_induction (P := TracksIn W) svd sqrt β gs
    (fun G hG _ _ h hC => by rw [fdStep_eq]; exact hC.step sqrt hsq β hβ hk G (hW G hG) _ h) (State.zero d k)
    (fun _ _ => 0) hsvd
    ⟨by rw [toM_zero]; exact sketch_zero, rfl, fun _ => le_rfl, 0, by rw [toM_zero, Matrix.mul_zero, Matrix.zero_mul]⟩
  exact ⟨this.1, this.2.1⟩

/-- **Distributed Shampoo instance**: `_fd_update_root` (with `padding_start > 0`) keeps the bracket around
`β·C + G̃ G̃ᵀ`, where `G̃` is the padding-masked gradient factor and the sketch entering the step is the
re-masked, ridge-shifted one (`dsInput`: the per-step ridge the configuration adds is part of `C`). -/
theorem ds_fd_update_root_bracket [Max R] (sqrt pw : R → R) (hsq : ∀ x, 0 ≤ x → sqrt x * sqrt x = x)
    (cfg : DsCfg R) (hβ : 0 ≤ cfg.β) (hps : cfg.ps ≠ 0) (hk : k ≤ d) (st : State R d k)
    (hl : ∀ a, 0 ≤ (dsInput cfg st).l a) (ht : 0 ≤ st.t) (G : Mat R d d) (o : SvdOut R d)
    (hsvd : SvdSpec (dsB sqrt cfg st G) o)
    (C : Matrix (Fin d) (Fin d) R) (hlo : (C - toM (sketch (dsInput cfg st))).PosSemidef)
    (hhi : (toM (sketch (dsInput cfg st)) + st.t • (1 : Matrix (Fin d) (Fin d) R) - C).PosSemidef) :
    (cfg.β • C + toM (outer (dsMaskG cfg.ps G)) - toM (sketch (dsFdUpdateRootO pw cfg st o).st)).PosSemidef ∧
    (toM (sketch (dsFdUpdateRootO pw cfg st o).st)
      + (dsFdUpdateRootO pw cfg st o).st.t • (1 : Matrix (Fin d) (Fin d) R)
      - (cfg.β • C + toM (outer (dsMaskG cfg.ps G)))).PosSemidef := by
  rw [dsFdUpdateRootO_st pw cfg hps st o (stepO_t_nonneg cfg.β st.t hβ ht o)]
  exact stepO_bracket cfg.β hβ hk (dsInput cfg st) o hsvd
    (by rw [dsB_eq]; exact gram_fdB sqrt hsq cfg.β hβ _ hl _) C hlo hhi

/-- **Tearfree Sketchy instance**: `_update_axis` stores ROOTS `e` of the sketch eigenvalues; the state it
denotes, `(V', e'², t')`, is exactly the generic step (`sqrt ≥ 0` is the extra kernel hypothesis), so the bracket is
kept around `β·C + G Gᵀ` with `β = second_moment_decay` — the sketch is discounted by `sqrt(β)` on the roots and the
escaped mass by `β`. -/
theorem sketchy_update_axis_bracket (sqrt pw : R → R) (hsq : ∀ x, 0 ≤ x → sqrt x * sqrt x = x)
    (hs0 : ∀ x, 0 ≤ sqrt x) (epsilon : R) (relative : Bool) (β : R) (hβ : 0 ≤ β) (hk : k ≤ d)
    (st : SkState R d k) (G : Mat R d m) (o : SvdOut R d) (hsvd : SvdSpec (sketchyB sqrt β st G) o)
    (C : Matrix (Fin d) (Fin d) R) (hlo : (C - toM (sketch st.denote)).PosSemidef)
    (hhi : (toM (sketch st.denote) + st.t • (1 : Matrix (Fin d) (Fin d) R) - C).PosSemidef) :
    (sketchyUpdateAxisO sqrt pw epsilon relative β st o).st.denote = stepO k β st.t o ∧
    (β • C + toM (outer G)
      - toM (sketch (sketchyUpdateAxisO sqrt pw epsilon relative β st o).st.denote)).PosSemidef ∧
    (toM (sketch (sketchyUpdateAxisO sqrt pw epsilon relative β st o).st.denote)
      + (sketchyUpdateAxisO sqrt pw epsilon relative β st o).st.t • (1 : Matrix (Fin d) (Fin d) R)
      - (β • C + toM (outer G))).PosSemidef := by
  have hden := sketchy_denote sqrt pw hsq (fun x _ => hs0 x) epsilon relative β st o hsvd.nonneg
  have ht : (sketchyUpdateAxisO sqrt pw epsilon relative β st o).st.t = (stepO k β st.t o).t := congrArg State.t hden
  refine ⟨hden, ?_⟩
  rw [hden, ht]
  exact stepO_bracket β hβ hk st.denote o hsvd (gram_sketchyB sqrt hsq β hβ st G) C hlo hhi

/-- **The guards of `_fd_update_root` are identities under the SVD specification.** `dsFdUpdateRootG` is the
code-shaped step WITH the unit-norm window (`0.99 ≤ ‖u_a‖ ≤ 1.01`, renormalisation) and the padding-mass guard
(`‖u_a[padding]‖₁ > 0.01 ⇒ zero the direction`), the later `upshifted *= deflated > 0`, `has_zeros` on the guarded
eigenvalues — what `drv_c09` executes. Whenever the SVD meets `SvdSpec` on the matrix it is given (whose padding rows
are zero by construction: both blocks are masked with `active_ix_d`), `sqrt` is the non-negative root, the window
contains 1 and the threshold is non-negative, it returns EXACTLY the unguarded `dsFdUpdateRootO`. -/
theorem ds_guards_are_identities (sqrt pw : R → R) (hsq : ∀ x, 0 ≤ x → sqrt x * sqrt x = x) (hs0 : ∀ x, 0 ≤ sqrt x)
    (g : Guards R) (hlo : g.lo ≤ 1) (hhi : 1 ≤ g.hi) (hthr : 0 ≤ g.thr) (cfg : DsCfg R) (hβ : 0 ≤ cfg.β)
    (hk : k ≤ d) (st : State R d k) (ht : 0 ≤ st.t) (G : Mat R d d) (o : SvdOut R d)
    (hsvd : SvdSpec (dsB sqrt cfg st G) o) :
    dsFdUpdateRootG sqrt pw g cfg st o = dsFdUpdateRootO pw cfg st o := by
  unfold dsFdUpdateRootG dsFdUpdateRootO
  by_cases hps : cfg.ps = 0
  · simp only [hps, if_true]
  · simp only [hps, if_false]
    -- both guards return `(V, l)` of the unguarded step
    have h1 := guardNorm_id sqrt hsq (fun x _ => hs0 x) g hlo hhi hsvd.specM hk cfg.β st.t
    rw [h1]
    have h2 := guardPad_id g hthr cfg.ps (stepO k cfg.β st.t o).V (stepO k cfg.β st.t o).l
      (ds_stepO_pad_zero sqrt cfg hk st G o hsvd cfg.β st.t)
    simp only [h2]
    -- `hasZeros`, and the mask inside `inverted`, in terms of `kept`
    simp only [decide_stepO_l_pos, decide_stepO_l_le_zero, decide_clamp_le_zero]
    -- what is left is the field `inverted`, entry `a`
    congr 1
    funext a
    rw [masked_pow pw _ _ fun hka =>
      add_pos_of_pos_of_nonneg (kept_sq_pos a hka) (mul_nonneg hβ ht), invRoots, add_zero]

/-- so the bracket holds for the guarded, code-shaped `_fd_update_root`. -/
theorem ds_fd_update_root_guarded_bracket (sqrt pw : R → R) (hsq : ∀ x, 0 ≤ x → sqrt x * sqrt x = x)
    (hs0 : ∀ x, 0 ≤ sqrt x) (g : Guards R) (hlo : g.lo ≤ 1) (hhi : 1 ≤ g.hi) (hthr : 0 ≤ g.thr)
    (cfg : DsCfg R) (hβ : 0 ≤ cfg.β) (hps : cfg.ps ≠ 0) (hk : k ≤ d) (st : State R d k)
    (hl : ∀ a, 0 ≤ (dsInput cfg st).l a) (ht : 0 ≤ st.t) (G : Mat R d d) (o : SvdOut R d)
    (hsvd : SvdSpec (dsB sqrt cfg st G) o)
    (C : Matrix (Fin d) (Fin d) R) (hlo' : (C - toM (sketch (dsInput cfg st))).PosSemidef)
    (hhi' : (toM (sketch (dsInput cfg st)) + st.t • (1 : Matrix (Fin d) (Fin d) R) - C).PosSemidef) :
    (cfg.β • C + toM (outer (dsMaskG cfg.ps G)) - toM (sketch (dsFdUpdateRootG sqrt pw g cfg st o).st)).PosSemidef ∧
    (toM (sketch (dsFdUpdateRootG sqrt pw g cfg st o).st)
      + (dsFdUpdateRootG sqrt pw g cfg st o).st.t • (1 : Matrix (Fin d) (Fin d) R)
      - (cfg.β • C + toM (outer (dsMaskG cfg.ps G)))).PosSemidef := by
  rw [ds_guards_are_identities sqrt pw hsq hs0 g hlo hhi hthr cfg hβ hk st ht G o hsvd]
  exact ds_fd_update_root_bracket sqrt pw hsq cfg hβ hps hk st hl ht G o hsvd C hlo' hhi'

/-- **OCO instance** (`_fd_update_fn`, row form): the state keeps `P : (k+1) × n` (rows of `vt`) and root eigenvalues
`e`; the new gradient REPLACES the last row (`B.at[-1].set(grad_input)`), `rho = s[-1]`, no row is masked. For the
sketch denoted by the first `k` rows, `Pᵀ diag(e²) P ≤ C ≤ Pᵀ diag(e²) P + t·I` is kept around `C + g gᵀ`
with `t' = t + rho²` (S-AdaGrad: `alpha − delta`; RFD-SON: `2(alpha − delta)`). -/
theorem oco_update_bracket {n : ℕ} (sqrt : R → R) (hsq : ∀ x, 0 ≤ x → sqrt x * sqrt x = x) (hk : k ≤ n)
    (st : OcoState R k n) (g : Vec R n) (o : SvdOut R n) (hsvd : SvdSpec (ocoB st g) o)
    (C : Matrix (Fin n) (Fin n) R) (hlo : (C - toM (sketch st.denote)).PosSemidef)
    (hhi : (toM (sketch st.denote) + st.t • (1 : Matrix (Fin n) (Fin n) R) - C).PosSemidef) :
    (C + toM (outer (colOf g)) - toM (sketch (ocoFdUpdateO sqrt st o).denote)).PosSemidef ∧
    (toM (sketch (ocoFdUpdateO sqrt st o).denote) + (ocoFdUpdateO sqrt st o).t • (1 : Matrix (Fin n) (Fin n) R)
      - (C + toM (outer (colOf g)))).PosSemidef ∧
    (ocoFdUpdateO sqrt st o).t = st.t + rho k o ∧
    (∀ a, 0 ≤ (ocoFdUpdateO sqrt st o).denote.l a) := by
  rw [sketch_eq] at hlo hhi
  rw [sketch_eq, outer_eq]
  obtain ⟨h1, h2⟩ := oco_bracket sqrt hsq hk st g o hsvd C hlo hhi
  exact ⟨h1, h2, rfl, fun a => mul_self_nonneg _⟩

end Field

section Cut
variable {α : Type} [Zero α] [One α] [Add α] [Sub α] [Mul α] {D k : ℕ}

/-- what the next public update reads after `p[:dim, :k+2]` and re-padding (`publicReload`), for every packed state:
directions are kept on the rows `< dim`, the escaped mass is kept, and eigenvalue `a` — stored at row
`max_size − k + a` of the last column — survives only if that row is `< dim`. -/
theorem ds_public_cut_reads (hD : k + 2 < D) (dim : ℕ) (hdim : 1 < dim) (st : State α D k) (inv : Vec α k) (c f : α) :
    (∀ i a, (publicReload dim st inv c f).V i a = if i.1 < dim then st.V i a else 0) ∧
    (∀ a, (publicReload dim st inv c f).l a = if D - k + a.1 < dim then st.l a else 0) ∧
    (publicReload dim st inv c f).t = st.t :=
  ⟨publicReload_V dim st inv c f, publicReload_l dim st inv c f, publicReload_t hD dim hdim st inv c f⟩

/-- **K5 cannot occur when `dim = max_size`**: the cut is the identity on the sketch state. -/
theorem ds_public_cut_harmless_when_dim_eq_max_size (hD : k + 2 < D) (st : State α D k) (inv : Vec α k) (c f : α) :
    (publicReload D st inv c f).V = st.V ∧ (publicReload D st inv c f).l = st.l ∧
    (publicReload D st inv c f).t = st.t := by
  refine ⟨?_, ?_, publicReload_t hD D (by omega) st inv c f⟩
  · funext i a; rw [publicReload_V, if_pos i.2]
  · funext a
    rw [publicReload_l, if_pos]
    have := a.2
    omega

end Cut

/-- witness of K5: `max_size = 5`, rank 1, a statistic of dimension 4; sketch `4·e₀e₀ᵀ`, escaped mass 1 -/
def k5St : State ℚ 5 1 := { V := fun i _ => if i = 0 then 1 else 0, l := fun _ => 4, t := 1 }

/-- **Negative (K5).** Whenever `dim < max_size` the LAST eigenvalue slot (row `max_size − 1`) is cut off and reads 0
at the next update, for every state. Concretely (`max_size 5`, `k = 1`, `dim 4`): a state that brackets
`C = 4·e₀e₀ᵀ` exactly is reloaded with the same directions and escaped mass but eigenvalue 0, and
`sketch + t·I ≥ C` fails (entry `(0,0)`: `0 + 1 − 4 < 0`). -/
theorem ds_public_cut_loses_eigenvalues :
    (∀ (D k dim : ℕ) (hk : 0 < k) (_ : k + 2 < D) (_ : dim < D) (st : State ℚ D k) (inv : Vec ℚ k) (c f : ℚ),
      (publicReload dim st inv c f).l ⟨k - 1, by omega⟩ = 0) ∧
    ((toM (sketch k5St) - toM (sketch k5St)).PosSemidef ∧
      (toM (sketch k5St) + k5St.t • (1 : Matrix (Fin 5) (Fin 5) ℚ) - toM (sketch k5St)).PosSemidef) ∧
    (publicReload 4 k5St (fun _ => 1) 1 0).l = (fun _ => 0) ∧
    (publicReload 4 k5St (fun _ => 1) 1 0).t = 1 ∧
    (∀ i a, i.1 < 4 → (publicReload 4 k5St (fun _ => 1) 1 0).V i a = k5St.V i a) ∧
    ¬ (toM (sketch (publicReload 4 k5St (fun _ => 1) 1 0))
        + (publicReload 4 k5St (fun _ => 1) 1 0).t • (1 : Matrix (Fin 5) (Fin 5) ℚ) - toM (sketch k5St)).PosSemidef := by
  have hl : ∀ a, (publicReload 4 k5St (fun _ => 1) 1 0).l a = 0 := by
    intro a
    rw [publicReload_l, if_neg (by omega)]
  have ht : (publicReload 4 k5St (fun _ => 1) 1 0).t = 1 := publicReload_t (by norm_num) 4 (by norm_num) _ _ _ _
  refine ⟨?_, ⟨?_, ?_⟩, funext hl, ht, ?_, ?_⟩
  · intro D k dim hk hD hdim st inv c f
    rw [publicReload_l, if_neg]
    simp only [not_lt]
    omega
  · rw [sub_self]; exact PosSemidef.zero
  · rw [add_sub_cancel_left]
    simpa [k5St] using (PosSemidef.one : (1 : Matrix (Fin 5) (Fin 5) ℚ).PosSemidef)
  · intro i a hi
    rw [publicReload_V, if_pos hi]
  · intro hA
    have h00 := hA.diag_nonneg (i := (0 : Fin 5))
    simp only [Matrix.sub_apply, Matrix.add_apply, Matrix.smul_apply, Matrix.one_apply_eq, toM_apply, sketch,
      sumFin_eq, Fin.sum_univ_one, smul_eq_mul] at h00
    rw [hl, ht] at h00
    norm_num [k5St] at h00

/-- **Negative.** The unrepaired Tearfree Sketchy recurrence `tail * sqrt(decay) + ρ` violates the escaped-mass
recurrence: at `decay = 1/4` (`sqrt = 1/2`) a zero-gradient step (`ρ = 0`) from `t = 1` leaves `t' = 1/2`, while
the sketch (and the property's `β·t + ρ`) is discounted to `1/4`. -/
theorem sketchy_tail_sqrt_decay_violates :
    sketchyTailUnrepaired (1 / 2 : ℚ) 1 0 = 1 / 2 ∧ (1 / 2 : ℚ) * (1 / 2) = 1 / 4 ∧
    sketchyTailUnrepaired (1 / 2 : ℚ) 1 0 ≠ (1 / 4 : ℚ) * 1 + 0 := by
  refine ⟨by norm_num [sketchyTailUnrepaired], by norm_num, by norm_num [sketchyTailUnrepaired]⟩

/-! ### the hypotheses are satisfiable: a concrete non-trivial instance at ℝ -/

/-- `d = 2`, `k = 1`, one gradient column `(3, 4)ᵀ`: `B = [0 | g]`, `B Bᵀ = g gᵀ` has the
eigen-decomposition `U = [[3/5, -4/5], [4/5, 3/5]]`, `s = (5, 0)`. -/
noncomputable def exG : Mat ℝ 2 1 := fun i _ => if i = 0 then 3 else 4
noncomputable def exOut : SvdOut ℝ 2 :=
  { U := fun i j => if i = 0 then (if j = 0 then 3 / 5 else -4 / 5) else (if j = 0 then 4 / 5 else 3 / 5)
    s := fun a => if a = 0 then 5 else 0 }

example : SvdSpec (fdB Real.sqrt (1 / 2) (State.zero 2 1) exG) exOut where
  uOrthoRows := by
    simp only [Fin.forall_fin_two, sumFin_eq, Fin.sum_univ_two, exOut, Fin.isValue, Fin.reduceEq, ↓reduceIte]
    norm_num
  uOrthoCols := by
    simp only [Fin.forall_fin_two, sumFin_eq, Fin.sum_univ_two, exOut, Fin.isValue, Fin.reduceEq, ↓reduceIte]
    norm_num
  recon := by
    simp only [Fin.forall_fin_two, outer, sumFin_eq, fdB, Fin.sum_univ_add, Fin.addCases_left, Fin.addCases_right,
      State.zero, Fin.sum_univ_one, Fin.sum_univ_two, exOut, exG, Fin.isValue, Fin.reduceEq, ↓reduceIte]
    norm_num
  nonneg := by
    simp only [Fin.forall_fin_two, exOut, Fin.isValue, Fin.reduceEq, ↓reduceIte]
    norm_num
  sorted := by
    simp only [Fin.forall_fin_two, exOut, Fin.isValue, Fin.reduceEq, ↓reduceIte]
    norm_num

example : ∀ x : ℝ, 0 ≤ x → Real.sqrt x * Real.sqrt x = x := fun _ hx => Real.mul_self_sqrt hx

end PrecondVerif.C09
