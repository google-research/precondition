/-
C13 — device-count invariance of the distributed preconditioner computation.

Model: `Model/Devices.lean` (executed by `drv_c13` on tagged statistics). Everything here is index
algebra on `List`/`Nat` and holds for every number of devices `D ≥ 1`, every number of statistics
`N` (all residues mod `D`, including `N < D` and the empty tree), every per-matrix computation
`f : α → β` (Newton / eigh root, quantized wrapper, low-rank root — `α` carries the statistic, its
exponent, its padding start and the previous preconditioner) and every filler element.

Not provable here (decided on executed inputs by the harness only): that XLA evaluates `f` on a
matrix to the same bits whatever the size of the batch it sits in.
-/
import PrecondVerif.Lemmas.Devices

namespace PrecondVerif.C13
open PrecondVerif.Devices

variable {α β γ δ : Type}

/-- `to_pad = -N % D` pads to a multiple of `D` with fewer than `D` fillers. -/
theorem toPad_spec (N D : Nat) (hD : 1 ≤ D) : (N + toPad N D) % D = 0 ∧ toPad N D < D :=
  ⟨toPad_add_mod N D hD, Nat.mod_lt _ (Nat.lt_of_succ_le hD)⟩

/-- … and it is the least such count (no replica computes more fillers than necessary). -/
theorem toPad_minimal (N D k : Nat) (hD : 1 ≤ D) (h : (N + k) % D = 0) : toPad N D ≤ k := by
  by_cases h0 : N % D = 0
  · rw [toPad_eq_zero_of_mod N D h0]
    exact Nat.zero_le k
  · rw [toPad_of_mod_ne N D hD h0]
    rw [← Nat.mod_add_mod] at h
    by_cases hlt : N % D + k < D
    · rw [Nat.mod_eq_of_lt hlt] at h
      exact absurd (Nat.eq_zero_of_add_eq_zero_right h) h0
    · exact Nat.sub_le_of_le_add (Nat.add_comm _ _ ▸ Nat.le_of_not_lt hlt)

/-- The model's `toPad` is Python's `-N % D` (floor-mod; `Int.emod` for a positive divisor). -/
theorem toPad_eq_python_mod (N D : Nat) (hD : 1 ≤ D) : (toPad N D : Int) = (-(N : Int)) % (D : Int) := by
  rw [toPad, Int.natCast_emod, Int.natCast_sub (Nat.le_of_lt (Nat.mod_lt N (Nat.lt_of_succ_le hD))),
    Int.natCast_emod, Int.sub_emod_emod, ← Int.neg_emod_eq_sub_emod]

/-- `batch` of a non-empty list whose length is a multiple of `D` is a `[D, n / D]` array … -/
theorem batch_shape (xs : List α) (D : Nat) (hD : 1 ≤ D) (hdvd : D ∣ xs.length) (hne : xs ≠ []) :
    (batch xs D).length = D ∧ ∀ r ∈ batch xs D, r.length = xs.length / D := by
  obtain ⟨b, _, hl, hq, hbatch⟩ := batch_view xs D hD hdvd hne
  rw [hbatch, hq]
  exact ⟨chunks_length b D xs, chunks_row_length b D xs hl⟩

/-- … whose replica `d` holds the contiguous block `xs[d*b : (d+1)*b]`, `b = n / D`
(which statistic lands on which replica and slot). -/
theorem batch_index_map (xs : List α) (D d : Nat) (hD : 1 ≤ D) (hdvd : D ∣ xs.length) (hne : xs ≠ [])
    (hd : d < D) :
    deviceSlice (batch xs D) d = (xs.drop (d * (xs.length / D))).take (xs.length / D) := by
  obtain ⟨b, _, _, hq, hbatch⟩ := batch_view xs D hD hdvd hne
  rw [hbatch, hq]
  exact chunks_getD b D xs d hd

/-- The placement map the driver reports (`placeOf`): padded position `i` is computed on replica
`i / b` in slot `i % b`. -/
theorem batch_place_of_index (xs : List α) (D i : Nat) (hD : 1 ≤ D) (hdvd : D ∣ xs.length)
    (hi : i < xs.length) :
    (deviceSlice (batch xs D) (placeOf (xs.length / D) i).1)[(placeOf (xs.length / D) i).2]? = xs[i]? := by
  have hne : xs ≠ [] := List.ne_nil_of_length_pos (Nat.zero_lt_of_lt hi)
  obtain ⟨b, hb, hl, hq, _⟩ := batch_view xs D hD hdvd hne
  have hdlt : i / b < D := by
    apply (Nat.div_lt_iff_lt_mul hb).mpr
    rw [← hl]
    exact hi
  simp only [placeOf]
  rw [batch_index_map xs D (i / (xs.length / D)) hD hdvd hne (by rw [hq]; exact hdlt), hq,
    List.getElem?_take_of_lt (Nat.mod_lt _ hb), List.getElem?_drop]
  congr 1
  rw [Nat.mul_comm]
  exact Nat.div_add_mod i b

/-- `unbatch ∘ batch = id` (both the `b2 > 1` and the `b2 = 1` branch of `unbatch`). -/
theorem batch_unbatch_id (xs : List α) (D : Nat) (hD : 1 ≤ D) (hdvd : D ∣ xs.length) (hne : xs ≠ []) :
    unbatch (batch xs D) = xs := by
  obtain ⟨b, hb, hl, _, hbatch⟩ := batch_view xs D hD hdvd hne
  rw [hbatch, unbatch_uniform _ b hb (chunks_row_length b D xs hl), chunks_flatten_of_length b D xs hl]

/-- With every definition unfolded: pad, batch, map `f` on every replica's slice, all-gather,
unbatch, keep the first `N` — equals mapping `f` over the statistics. -/
theorem pmap_gather_unbatch_take (f : α → β) (filler : α) (D : Nat) (xs : List α) (hD : 1 ≤ D)
    (hne : xs ≠ []) :
    (unbatch (allGather D fun d =>
        (deviceSlice (batch (xs ++ List.replicate (toPad xs.length D) filler) D) d).map f)).take xs.length
      = xs.map f :=
  (congrArg (List.take xs.length) (pmapAll_eq f filler D xs hD hne)).trans (take_map_padTo f filler xs D)

/-- **Device-count invariance, replicated state**: what every replica stores for the `N` real
statistics is `f` of each of them, in order — for every `D ≥ 1` (so any two device counts agree),
every `N` including `N < D`, `D ∤ N` and the empty tree. -/
theorem pmap_result_independent_of_D (f : α → β) (filler : α) (D : Nat) (xs : List α) (hD : 1 ≤ D) :
    pmapCompute f filler D xs = xs.map f := by
  unfold pmapCompute
  cases xs with
  | nil => rfl
  | cons x xs =>
    rw [if_neg (by simp), pmapAll_eq f filler D (x :: xs) hD (List.cons_ne_nil x xs), take_map_padTo]

/-- … so any two device counts store the same result. -/
theorem pmap_result_same_for_any_two_device_counts (f : α → β) (filler : α) (D D' : Nat) (xs : List α)
    (hD : 1 ≤ D) (hD' : 1 ≤ D') :
    pmapCompute f filler D xs = pmapCompute f filler D' xs := by
  rw [pmap_result_independent_of_D f filler D xs hD, pmap_result_independent_of_D f filler D' xs hD']

/-- The filler results are exactly the trailing `to_pad` entries of the unbatched list … -/
theorem fillers_at_the_end (f : α → β) (filler : α) (D : Nat) (xs : List α) (hD : 1 ≤ D) (hne : xs ≠ []) :
    pmapAll f filler D xs = xs.map f ++ List.replicate (toPad xs.length D) (f filler) := by
  rw [pmapAll_eq f filler D xs hD hne, padTo, List.map_append, List.map_replicate]

/-- … and they are discarded: the stored result depends neither on the filler (identity statistic,
exponent 1, padding start 0 in the code) nor on what the computation does on it. -/
theorem fillers_discarded (f f' : α → β) (filler filler' : α) (D : Nat) (xs : List α) (hD : 1 ≤ D)
    (hf : ∀ x ∈ xs, f' x = f x) :
    pmapCompute f' filler' D xs = pmapCompute f filler D xs := by
  rw [pmap_result_independent_of_D f filler D xs hD, pmap_result_independent_of_D f' filler' D xs hD]
  exact List.map_congr_left hf

/-- Quantized preconditioners: payload, diagonal and bucket sizes are gathered and unbatched
separately and zipped afterwards; the result is again `f` of each statistic. -/
theorem pmap_quantized_result_independent_of_D (f : α → β × γ × δ) (filler : α) (D : Nat) (xs : List α)
    (hD : 1 ≤ D) : pmapComputeQ f filler D xs = xs.map f := by
  rw [pmapComputeQ_eq_pmapCompute, pmap_result_independent_of_D f filler D xs hD]

/-- The `batch_axis_name=None` branch (no collective, `unbatch` of a `[1, N]` array; `N = 1` takes the
`b2 = 1` branch). -/
theorem replicated_result (f : α → β) (xs : List α) : replicatedCompute f xs = xs.map f := by
  unfold replicatedCompute
  cases xs with
  | nil => rfl
  | cons x xs =>
    rw [if_neg (by simp)]
    -- the stacked single row is the all-gather over one replica
    rw [← allGather_one fun d => (deviceSlice (batch (x :: xs) 1) d).map f,
      unbatch_gather_batch f (x :: xs) 1 (Nat.le_refl 1) (Nat.one_dvd _) (List.cons_ne_nil x xs)]
    exact List.take_of_length_le (Nat.le_of_eq (List.length_map f))

/-- The global arrays have a positive length that is a multiple of `D`, equal to what
`shape_and_dtype_fn` declares; a tree without statistics gets exactly `D` fillers. -/
theorem sharded_padding_spec (filler : α) (xs : List α) (D : Nat) (hD : 1 ≤ D) :
    (shardedPad filler xs D).length % D = 0 ∧ 0 < (shardedPad filler xs D).length ∧
    (shardedPad filler xs D).length = shardedDeclared xs.length D ∧
    (xs = [] → (shardedPad filler xs D).length = D) := by
  refine ⟨Nat.mod_eq_zero_of_dvd (shardedPad_dvd filler xs D hD), ?_, ?_, ?_⟩
  · exact List.length_pos_iff.mpr (shardedPad_ne_nil filler xs D hD)
  · rw [shardedPad_length]
    unfold shardedToPad shardedDeclared
    by_cases h0 : xs.length = 0
    · simp [h0, toPad_eq_zero_of_mod 0 D (Nat.zero_mod D)]
    · simp only [h0, if_false]
      rw [if_neg (by omega)]
  · intro h
    subst h
    simp [shardedPad, shardedToPad]

/-- Partitioning over `D` devices, mapping per shard and recombining is the map over the padded list. -/
theorem sharded_compute_eq (f : α → β) (filler : α) (D : Nat) (xs : List α) (hD : 1 ≤ D) :
    shardedCompute f filler D xs =
      xs.map f ++ List.replicate (shardedToPad xs.length D) (f filler) := by
  unfold shardedCompute
  rw [flatten_gather_batch f _ D hD (shardedPad_dvd filler xs D hD) (shardedPad_ne_nil filler xs D hD),
    shardedPad, List.map_append, List.map_replicate]

/-- **Device-count invariance, sharded state**: every per-parameter view
`global[index_start : index_start + count]` that stays inside the `N` real statistics is the same for
any two declared device counts, namely the corresponding slice of `map f`. -/
theorem sharded_slices_independent_of_D (f : α → β) (filler : α) (D D' : Nat) (xs : List α)
    (hD : 1 ≤ D) (hD' : 1 ≤ D') (s c : Nat) (hsc : s + c ≤ xs.length) :
    slice s c (shardedCompute f filler D xs) = slice s c (xs.map f) ∧
    slice s c (shardedCompute f filler D xs) = slice s c (shardedCompute f filler D' xs) := by
  have key : ∀ E, 1 ≤ E → slice s c (shardedCompute f filler E xs) = slice s c (xs.map f) := by
    intro E hE
    rw [sharded_compute_eq f filler E xs hE]
    unfold slice
    rw [List.drop_append_of_le_length (by rw [List.length_map]; omega),
      List.take_append_of_le_length (by rw [List.length_drop, List.length_map]; omega)]
  exact ⟨key D hD, by rw [key D hD, key D' hD']⟩

/-! ### the hypotheses are satisfiable / concrete instances -/

example : toPad 7 3 = 2 ∧ toPad 6 3 = 0 ∧ toPad 2 8 = 6 ∧ toPad 0 5 = 0 := by decide

example : batch [0, 1, 2, 3, 4, 5] 3 = [[0, 1], [2, 3], [4, 5]] := by decide

/-- `b2 = 1` branch -/
example : unbatch (batch [0, 1, 2] 3) = [0, 1, 2] ∧ rowWidth (batch [0, 1, 2] 3) = 1 := by decide

/-- 7 statistics on 3 replicas: 2 fillers (tag 99), computed on the last replica and dropped -/
example : pmapGathered (· + 100) 99 3 [0, 1, 2, 3, 4, 5, 6] =
      [[100, 101, 102], [103, 104, 105], [106, 199, 199]] ∧
    pmapCompute (· + 100) 99 3 [0, 1, 2, 3, 4, 5, 6] = [100, 101, 102, 103, 104, 105, 106] := by decide

/-- without the padding the batched array would be ragged (3 rows for 2 replicas) -/
example : batch [0, 1, 2] 2 = [[0], [1], [2]] := by decide

/-- sharded: an empty tree on 4 devices holds 4 fillers; 5 statistics on 4 devices hold 3 -/
example : shardedCompute (· + 100) 99 4 [] = [199, 199, 199, 199] ∧
    shardedCompute (· + 100) 99 4 [0, 1, 2, 3, 4] = [100, 101, 102, 103, 104, 199, 199, 199] ∧
    shardedDeclared 0 4 = 4 ∧ shardedDeclared 5 4 = 8 := by decide

end PrecondVerif.C13
