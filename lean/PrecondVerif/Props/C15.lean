/-
C15 — the Tearfree optimizer equals its documented composition

    update(t) = -lr(t) · momentum( weight decay( graft( second_order( merge and pad(g) ) ) ) ).

All theorems are about the definitions of `Model/Tearfree.lean` that `drv_c15` executes (`tearfreeTx`, `graftTx`,
`secondOrderTx`, `momentumTx`, `lrTx`, `rootOfEigh`, …), for every vector length, tensor shape, history and option
record.

Section `Any` holds for EVERY scalar type carrying the arithmetic notation (in particular for the driver's `Float`): it is
pure bookkeeping — `sharded_chain` threads states positionally, `momentum.apply`'s run-time list of optax
transformations is the documented stage, the learning rate comes last.
Section `Field` needs commutative-ring / ordered-field laws (ℚ, ℝ): exact linearity in the learning rate (constant or
scheduled), the momentum formulas of the docstring, the side of the weight decay.
Section `Shapes`: merge / pad / unpad / unmerge round trip on flat data (built on C06).
Section `Root`: the block inverse root under the `eigh` specification; the per-block cut; independence of the `eigh` output;
zero padding (full: the real block of the padded root is the root of the real block).
Sections `Cadence`, `CadenceModel`: statistics closed form over histories and the refresh cadence (statistics first, then
roots from them; ties C15 to C04).

Gap (stated): optax's `trace`, `scale`, `add_decayed_weights`, `scale_by_schedule` are modelled from their documentation
(and compared bit for bit with the real chain on dyadic data by the harness); `adafactor` is opaque; floating-point
rounding is outside these exact theorems (tolerances in the harness).
-/
import PrecondVerif.Lemmas.Tearfree
import PrecondVerif.Lemmas.Loewner
import PrecondVerif.Props.C06
import Mathlib.Analysis.SpecialFunctions.Pow.Real

set_option linter.unusedSectionVars false
set_option linter.overlappingInstances false

namespace PrecondVerif.C15
open PrecondVerif.Tearfree PrecondVerif.Shapes

section Any
variable {α : Type} [Zero α] [One α] [Add α] [Sub α] [Mul α] [Neg α] [LT α] [DecidableLT α] [BEq α]

/-- `sharded_chain(a, b, c)`: stage `k` receives the updates produced by stage `k-1`, the `k`-th entry of the state tuple
and the unchanged params; the new state tuple holds the stages' new states in the same positions. -/
theorem sharded_chain_positional {S₁ S₂ S₃ U P : Type} (a : Tx S₁ U P) (b : Tx S₂ U P) (c : Tx S₃ U P)
    (u : U) (s : S₁ × S₂ × S₃) (p : P) :
    (chain3 a b c).update u s p =
      ((c.update (b.update (a.update u s.1 p).1 s.2.1 p).1 s.2.2 p).1,
       ((a.update u s.1 p).2, (b.update (a.update u s.1 p).1 s.2.1 p).2,
        (c.update (b.update (a.update u s.1 p).1 s.2.1 p).1 s.2.2 p).2)) :=
  chain3_update a b c u s p

/-- a run-time `sharded_chain(*transforms)` keeps one state entry per transformation -/
theorem sharded_chain_state_length {S U P : Type} (l : List (Tx S U P)) (u : U) (ss : List S) (p : P)
    (h : ss.length = l.length) : ((chainL l).update u ss p).2.length = l.length := by
  rw [chainL_update]
  induction l generalizing u ss with
  | nil => rfl
  | cons f fs ih =>
    cases ss with
    | nil => simp at h
    | cons s ss => exact congrArg (· + 1) (ih _ _ (Nat.succ.inj h))

/-- `momentum.apply(options)` — the chain of `optax.scale(1 - decay)` (ema), `optax.trace(decay, nesterov)` and
`optax.add_decayed_weights` in the configured order — IS the documented momentum stage, for all 32 option patterns;
the velocity stays at its position of the state tuple. -/
theorem momentum_chain_is_documented_stage (o : MomOpts α) (u tr x : List α) :
    (momentumTx o).update u (momState o tr) x =
      ((specMomentumStage o u tr x).1, momState o (specMomentumStage o u tr x).2) :=
  momentumTx_update o u tr x

/-- `tearfree(lr, options)`, any graft stage `G`: the update is `-lr(n)` times the momentum stage of the graft stage's
output; the graft stage's state, the velocity and the schedule counter are each advanced by their own stage only. -/
theorem tearfree_is_composition_generic {GS : Type} (G : Tx GS (List α) (List α)) (o : MomOpts α) (lr : LR α)
    (g : List α) (gs : GS) (tr : List α) (n : Nat) (x : List α) :
    (tearfreeTx G o lr).update g (gs, momState o tr, n) x =
      (specLr lr n (specMomentumStage o (G.update g gs x).1 tr x).1,
       ((G.update g gs x).2, momState o (specMomentumStage o (G.update g gs x).1 tr x).2, lr.next n)) :=
  tearfreeTx_update G o lr g gs tr n x

/-- the state `init` returns has exactly the shape the composition theorem starts from: velocity 0, counter 0 -/
theorem tearfree_init_state {GS : Type} (G : Tx GS (List α) (List α)) (o : MomOpts α) (lr : LR α) (p : List α) :
    (tearfreeTx G o lr).init p = (G.init p, momState o (p.map fun _ => 0), 0) := by
  rw [tearfreeTx, chain3_init, momentumTx_init, lrTx_init]

/-- whole histories: folding the code-shaped chain over any history equals folding the documented composition -/
theorem tearfree_history {GS : Type} (G : Tx GS (List α) (List α)) (o : MomOpts α) (lr : LR α)
    (h : List (List α × List α)) (p : List α) :
    (runTx (tearfreeTx G o lr) ((tearfreeTx G o lr).init p) h).1 =
      specRun G o lr (G.init p) (p.map fun _ => 0) 0 h := by
  rw [tearfree_init_state]
  exact runTx_tearfree G o lr h _ _ _

variable [Div α]

/-- **tearfree_is_composition** — the full pipeline on a preconditioned leaf (graft type ≠ NONE, leaf not masked):

  merge and pad `g` (original → merged → padded shape) → preconditioner built for the PADDED MERGED shape → unpad and
  unmerge → norm transplant against the graft step of the ORIGINAL `g` (before `start`: the graft step itself) →
  weight decay / ema pre-scale / trace (Nesterov) / weight decay in the configured order → `-lr(n)`;

the state tuple `((count, ((), precond, ()), norm), momentum tuple, schedule count)` is updated position by position. -/
theorem tearfree_is_composition {PS NS : Type} (sqrt : α → α) (go : GraftOpts α) (hne : go.type ≠ .none)
    (shape : List Nat) (hm : Graft.tfMaskSkipped go.rank1 go.anyDimGt shape = false)
    (mergeDims blockSize : Nat) (precond : List Nat → Tx PS (List α) (List α))
    (norm : Tx NS (List α) (List α)) (mo : MomOpts α) (lr : LR α)
    (g x tr : List α) (c n : Nat) (ps : PS) (ns : NS) :
    let s := deriveShapes mergeDims blockSize shape
    let merged := (tfMerge 0 s blockSize (ofFlatL s.original g)).flat
    let pr := (precond s.padded).update merged ps x
    let b := (tfUnmerge s blockSize (ofFlatL s.padded pr.1)).flat
    let gr := norm.update g ns x
    let u := Graft.tfMaybeGraft sqrt c go.start false gr.1 b
    let m := specMomentumStage mo u tr x
    (tearfreeTx (graftTx sqrt go shape (secondOrderTx mergeDims blockSize shape precond) norm) mo lr).update g
        (⟨c, ((), ps, ()), ns⟩, momState mo tr, n) x
      = (specLr lr n m.1, (⟨c + 1, ((), pr.2, ()), gr.2⟩, momState mo m.2, lr.next n)) := by
  intro s merged pr b gr u m
  rw [tearfreeTx_update, graftTx_update_graft sqrt hne]
  simp only [hm, Bool.false_eq_true, if_false, secondOrderTx, chain3_update, mergeTx, unmergeTx]
  rfl

/-- a leaf excluded by the skip rules (evaluated on the ORIGINAL shape) never reaches the second-order stage: its
update is the graft step through momentum and `-lr`, at every step -/
theorem tearfree_masked_leaf {DS NS : Type} (sqrt : α → α) (go : GraftOpts α) (hne : go.type ≠ .none)
    (shape : List Nat) (hm : Graft.tfMaskSkipped go.rank1 go.anyDimGt shape = true)
    (direction : Tx DS (List α) (List α)) (norm : Tx NS (List α) (List α)) (mo : MomOpts α) (lr : LR α)
    (g x tr : List α) (c n : Nat) (ds : DS) (ns : NS) :
    (tearfreeTx (graftTx sqrt go shape direction norm) mo lr).update g (⟨c, ds, ns⟩, momState mo tr, n) x
      = (specLr lr n (specMomentumStage mo (norm.update g ns x).1 tr x).1,
         (⟨c + 1, ds, (norm.update g ns x).2⟩,
          momState mo (specMomentumStage mo (norm.update g ns x).1 tr x).2, lr.next n)) := by
  rw [tearfreeTx_update, graftTx_update_graft sqrt hne]
  simp only [hm, if_true, Graft.tfMaybeGraft, Graft.tfMaybeGraftG]

/-- `GraftingType.NONE`: the direction (second-order) stage alone feeds momentum, whatever the skip options say -/
theorem tearfree_no_graft {DS NS : Type} (sqrt : α → α) (go : GraftOpts α) (hn : go.type = .none)
    (shape : List Nat) (direction : Tx DS (List α) (List α)) (norm : Tx NS (List α) (List α))
    (mo : MomOpts α) (lr : LR α) (g x tr : List α) (n : Nat) (gs : GState DS NS) :
    (tearfreeTx (graftTx sqrt go shape direction norm) mo lr).update g (gs, momState mo tr, n) x
      = (specLr lr n (specMomentumStage mo (direction.update g gs.direction x).1 tr x).1,
         ({ gs with direction := (direction.update g gs.direction x).2 },
          momState mo (specMomentumStage mo (direction.update g gs.direction x).1 tr x).2, lr.next n)) := by
  rw [tearfreeTx_update, graftTx_update_none sqrt hn]

/-- `second_order.apply`: merge → precondition → unmerge, the preconditioner living on the padded merged shape -/
theorem second_order_is_merge_precondition_unmerge {PS : Type} (mergeDims blockSize : Nat) (shape : List Nat)
    (precond : List Nat → Tx PS (List α) (List α)) (g x : List α) (ps : PS) :
    let s := deriveShapes mergeDims blockSize shape
    let pr := (precond s.padded).update (tfMerge 0 s blockSize (ofFlatL s.original g)).flat ps x
    (secondOrderTx mergeDims blockSize shape precond).update g ((), ps, ()) x
      = ((tfUnmerge s blockSize (ofFlatL s.padded pr.1)).flat, ((), pr.2, ())) := by
  intro s pr
  rfl

/-- the graft counter and the schedule counter both count updates: after any history they agree with its length -/
theorem step_counters_agree {DS NS : Type} (sqrt : α → α) (go : GraftOpts α) (hne : go.type ≠ .none)
    (shape : List Nat) (direction : Tx DS (List α) (List α)) (norm : Tx NS (List α) (List α))
    (mo : MomOpts α) (f : Nat → α) (h : List (List α × List α)) :
    ∀ s : GState DS NS × List (List α) × Nat,
      (runTx (tearfreeTx (graftTx sqrt go shape direction norm) mo (.sched f)) s h).2.1.count = s.1.count + h.length ∧
      (runTx (tearfreeTx (graftTx sqrt go shape direction norm) mo (.sched f)) s h).2.2.2 = s.2.2 + h.length := by
  induction h with
  | nil => intro s; exact ⟨rfl, rfl⟩
  | cons a rest ih =>
    intro s
    rcases a with ⟨g, x⟩
    simp only [runTx, List.length_cons]
    have := ih ((tearfreeTx (graftTx sqrt go shape direction norm) mo (.sched f)).update g s x).2
    refine ⟨this.1.trans ?_, this.2.trans ?_⟩
    · simp only [tearfreeTx, chain3_update, graftTx_update_graft sqrt hne]; omega
    · simp only [tearfreeTx, chain3_update, lrTx]; omega

end Any

section Field
variable {α : Type} [Field α] [LinearOrder α] [IsStrictOrderedRing α]

/-- **linear_in_lr**: for EVERY graft / second-order stage, option record, start state and history — multiplying the
learning rate (a constant or a whole schedule) by `c` multiplies every update by `c`, exactly, and leaves the final
optimizer state unchanged. -/
theorem linear_in_lr {GS : Type} (G : Tx GS (List α) (List α)) (o : MomOpts α) (lr : LR α) (c : α)
    (h : List (List α × List α)) (s : GS × List (List α) × Nat) :
    (runTx (tearfreeTx G o (lr.scale c)) s h).1 = (runTx (tearfreeTx G o lr) s h).1.map (fun u => u.map fun y => c * y) ∧
    (runTx (tearfreeTx G o (lr.scale c)) s h).2 = (runTx (tearfreeTx G o lr) s h).2 := by
  rw [runTx_scale]
  exact ⟨rfl, rfl⟩

/-- one step of the same statement -/
theorem linear_in_lr_step {GS : Type} (G : Tx GS (List α) (List α)) (o : MomOpts α) (lr : LR α) (c : α)
    (g : List α) (s : GS × List (List α) × Nat) (x : List α) :
    (tearfreeTx G o (lr.scale c)).update g s x =
      (((tearfreeTx G o lr).update g s x).1.map fun y => c * y, ((tearfreeTx G o lr).update g s x).2) :=
  tearfreeTx_update_scale G o lr c g s x

/-- **momentum_formulas**: without weight decay the chain built by `momentum.apply` computes, entry by entry,
`velocity' = decay·velocity + (1 - decay)·update` (ema) resp. `decay·velocity + update` (trace), and returns
`velocity'`, or with Nesterov `maybe_decay·update + decay·velocity'` (`maybe_decay = 1 - decay` if ema else 1) — the
formulas of `momentum.Options`' docstring. -/
theorem momentum_formulas (o : MomOpts α) (hd : o.decay ≠ 0) (hw : ¬ 0 < o.wd) (u tr x : List α) :
    (momentumTx o).update u (momState o tr) x =
      (if o.nesterov then
          List.zipWith (fun g v' => docOutput o.ema true o.decay g v') u (List.zipWith (docVelocity o.ema o.decay) tr u)
        else List.zipWith (docVelocity o.ema o.decay) tr u,
       momState o (List.zipWith (docVelocity o.ema o.decay) tr u)) := by
  rw [momentumTx_update]
  have hs : specMomentumStage o u tr x = specMomentum o u tr := by
    simp only [specMomentumStage, specDecay, hw, if_false]
    split <;> rfl
  rw [hs, specMomentum_output o hd, specMomentum_velocity o hd]

/-- `momentum_decay = 0` switches momentum off (`if options.momentum_decay:`): only the weight decay remains -/
theorem momentum_off (o : MomOpts α) (hd : o.decay = 0) (u tr x : List α) :
    (momentumTx o).update u (momState o tr) x = (specDecay o.wd u x, momState o tr) := by
  rw [momentumTx_update]
  have h0 : (o.decay == 0) = true := by simp [hd]
  simp only [specMomentumStage, specMomentum, h0, if_true]
  split <;> rfl

/-- **weight_decay_order**, after momentum (`weight_decay_after_momentum = True`, the default): the velocity never sees
the weights, and `wd·x` is added to what momentum returns. -/
theorem weight_decay_after_momentum (o : MomOpts α) (ha : o.after = true) (hw : 0 < o.wd) (u tr x : List α) :
    (momentumTx o).update u (momState o tr) x =
      (List.zipWith (fun g p => g + o.wd * p) (specMomentum o u tr).1 x, momState o (specMomentum o u tr).2) := by
  rw [momentumTx_update]
  simp only [specMomentumStage, ha, if_true, specDecay, hw]

/-- **weight_decay_order**, before momentum: the velocity accumulates `update + wd·x`. -/
theorem weight_decay_before_momentum (o : MomOpts α) (ha : o.after = false) (hw : 0 < o.wd) (u tr x : List α) :
    (momentumTx o).update u (momState o tr) x =
      ((specMomentum o (List.zipWith (fun g p => g + o.wd * p) u x) tr).1,
       momState o (specMomentum o (List.zipWith (fun g p => g + o.wd * p) u x) tr).2) := by
  rw [momentumTx_update]
  simp only [specMomentumStage, ha, Bool.false_eq_true, if_false, specDecay, hw, if_true]

/-- **weight_decay_order** — both sides in one statement: with `wd > 0` the chain built by `momentum.apply` adds `wd·x`
to the output of momentum when `weight_decay_after_momentum`, and to its input otherwise. -/
theorem weight_decay_order (o : MomOpts α) (hw : 0 < o.wd) (u tr x : List α) :
    (momentumTx o).update u (momState o tr) x =
      if o.after then
        (List.zipWith (fun g p => g + o.wd * p) (specMomentum o u tr).1 x, momState o (specMomentum o u tr).2)
      else
        ((specMomentum o (List.zipWith (fun g p => g + o.wd * p) u x) tr).1,
         momState o (specMomentum o (List.zipWith (fun g p => g + o.wd * p) u x) tr).2) := by
  cases ha : o.after
  · simpa using weight_decay_before_momentum o ha hw u tr x
  · simpa using weight_decay_after_momentum o ha hw u tr x

/-- in particular the new velocity does not depend on the parameters when the decay comes after momentum -/
theorem velocity_ignores_weights_after (o : MomOpts α) (ha : o.after = true) (u tr x x' : List α) :
    ((momentumTx o).update u (momState o tr) x).2 = ((momentumTx o).update u (momState o tr) x').2 := by
  rw [momentumTx_update, momentumTx_update]
  simp only [specMomentumStage, ha, if_true]

end Field

/-- the two orders are genuinely different: one step from velocity 1 with `update = 1`, `x = 1`, `decay = wd = 1/2` leaves
velocity 3/2 (after) resp. 2 (before) -/
theorem weight_decay_order_matters :
    (specMomentumStage (⟨false, false, 1 / 2, 1 / 2, true⟩ : MomOpts ℚ) [1] [1] [1]).2 = [3 / 2] ∧
    (specMomentumStage (⟨false, false, 1 / 2, 1 / 2, false⟩ : MomOpts ℚ) [1] [1] [1]).2 = [2] := by
  have h0 : ((1 / 2 : ℚ) == 0) = false := by norm_num
  have hw : (0 : ℚ) < 1 / 2 := by norm_num
  simp only [specMomentumStage, specMomentum, specDecay, h0, hw, if_true, if_false, Bool.false_eq_true,
    List.zipWith_cons_cons, List.zipWith_nil_right, List.cons.injEq, and_true]
  norm_num

section Shapes
variable {α : Type} [Zero α]

/-- **merge_pad_roundtrip**, on the flat data the stages exchange: merging and zero-padding a leaf, tabulating it,
re-reading it, un-padding and un-merging returns exactly the leaf — for every shape with positive dimensions, merge
limit and block size. -/
theorem merge_pad_roundtrip (mergeDims blockSize : Nat) (shape : List Nat) (g : List α)
    (hlen : g.length = prod shape) (hd : ∀ d ∈ shape, 1 ≤ d) :
    let s := deriveShapes mergeDims blockSize shape
    (tfUnmerge s blockSize (ofFlatL s.padded (tfMerge 0 s blockSize (ofFlatL s.original g)).flat)).flat = g := by
  intro s
  have horig : s.original = shape := deriveShapes_original mergeDims blockSize shape
  have hMs : (tfMerge 0 s blockSize (ofFlatL s.original g)).shape = s.padded := tfMerge_shape mergeDims blockSize shape _
  -- entry by entry the left-hand tensor is `ofFlatL shape g`: re-reading the tabulated merged tensor changes nothing
  -- (`flat_get`), then C06's round trip
  refine (flat_congr (u := ofFlatL shape g) horig fun idx hin => ?_).trans (flat_ofFlatL shape g hlen)
  have hin' : inBounds shape idx := horig ▸ hin
  have hlt : ravel s.original idx < prod s.merged := by
    rw [horig, deriveShapes_merged_prod mergeDims blockSize shape hd]; exact ravel_lt shape idx hin'
  have hjp : inBounds s.padded (unravel s.merged (ravel s.original idx)) := by
    rw [deriveShapes_padded]; exact inBounds_pad blockSize _ _ (unravel_inBounds _ _ hlt)
  rw [tfUnmerge_get, ofFlatL_get, flat_get _ hMs _ hjp, ← tfUnmerge_get s blockSize _ idx, horig]
  exact C06.unmerge_merge_id (0 : α) mergeDims blockSize (ofFlatL shape g) hd idx hin'

/-- hence the second-order stage with the identity in place of the preconditioner is the identity: whatever reaches a
real entry of the output was computed at the corresponding merged index; padding entries are dropped -/
theorem second_order_identity_preconditioner (mergeDims blockSize : Nat) (shape : List Nat) (g x : List α)
    (hlen : g.length = prod shape) (hd : ∀ d ∈ shape, 1 ≤ d) :
    ((secondOrderTx mergeDims blockSize shape
        (fun _ => (⟨fun _ => (), fun u s _ => (u, s)⟩ : Tx Unit (List α) (List α)))).update g ((), (), ()) x).1 = g :=
  merge_pad_roundtrip mergeDims blockSize shape g hlen hd

/-- what un-merge delivers at an original index is its input's entry at the merged index (padding never read) -/
theorem unmerge_reads_merged_index (s : TFShapes) (blockSize : Nat) (t : Tensor α) (idx : List Nat) :
    (tfUnmerge s blockSize t).get idx = t.get (unravel s.merged (ravel s.original idx)) :=
  tfUnmerge_get s blockSize t idx

/-- the tensor handed to the preconditioner has the padded shape -/
theorem merged_tensor_has_padded_shape (mergeDims blockSize : Nat) (shape : List Nat) (t : Tensor α) :
    (tfMerge 0 (deriveShapes mergeDims blockSize shape) blockSize t).shape =
      (deriveShapes mergeDims blockSize shape).padded :=
  tfMerge_shape mergeDims blockSize shape t

end Shapes

/-- with the default `merge_dims = 1024` a `(4, 6)` leaf reaches Shampoo as a vector of 24
(ONE preconditioner, exponent 2), yet the graft's rank-1 skip rule — evaluated on the original shape — keeps it
preconditioned, although a genuine 24-vector would be skipped. -/
theorem merged_shape_vs_mask_shape :
    (deriveShapes 1024 1024 [4, 6]).padded = [24] ∧
    shampooExponent (deriveShapes 1024 1024 [4, 6]).padded = 2 ∧
    (blocksMetadata 1024 (deriveShapes 1024 1024 [4, 6]).padded).blockSizes = [24] ∧
    Graft.tfMaskSkipped true 4096 [4, 6] = false ∧ Graft.tfMaskSkipped true 4096 [24] = true := by
  decide

/-- with merging off the same leaf has two preconditioners and exponent 4; a block size of 4 pads `(5, 3)` to `(8, 3)` -/
theorem unmerged_and_padded_shapes :
    shampooExponent (deriveShapes 2 1024 [4, 6]).padded = 4 ∧
    (deriveShapes 2 4 [5, 3]).padded = [8, 3] ∧ (blocksMetadata 4 [8, 3]).numBlocks = 2 := by
  decide

section Root
open Matrix
variable {α : Type} [Field α] [LinearOrder α] [IsStrictOrderedRing α] {n : ℕ}

/-- **shampoo_block_root_spec**. Let `(w, V)` be what `eigh` returns for the block statistics `C` (specification:
`VᵀV = 1`, `V diag(w) Vᵀ = C`, eigenvalues non-negative), `p > 0` the exponent `2·rank`, `hp x = x ** (-0.5/p)` (specification:
`hp x > 0` and `(hp x · hp x)^p · x = 1` for `x > 0`), `0 ≤ cut`. Then the stored preconditioner `X = rootOfEigh hp cut (w, V)`
is symmetric and `X^p · C = Π`, where `Π = V diag(keep) Vᵀ` is the orthogonal projector (`Π² = Π = Πᵀ`, `ΠC = CΠ`) on the
eigenspace of the eigenvalues `> cut · max(w)` — the maximum OF THIS BLOCK (`wmax` sees only this block's `w`). -/
theorem shampoo_block_root_spec (hp : α → α) (cut : α) (hcut : 0 ≤ cut) (p : ℕ) (hpos : 0 < p) (hhp : HpSpec hp p)
    (C : Matrix (Fin n) (Fin n) α) (e : EighOut α n) (hs : EighSpec C e) (hw : ∀ a, 0 ≤ e.w a) :
    (Matrix.of (rootOfEigh hp cut e))ᵀ = Matrix.of (rootOfEigh hp cut e) ∧
    (Matrix.of (rootOfEigh hp cut e)) ^ p * C = projM cut e ∧
    projM cut e * projM cut e = projM cut e ∧ (projM cut e)ᵀ = projM cut e ∧
    projM cut e * C = C * projM cut e :=
  ⟨rootOfEigh_transpose hp cut e, rootOfEigh_pow_mul hp cut e C hs hcut hw p hpos hhp, projM_mul_self cut e hs.ortho, projM_transpose cut e,
    projM_comm cut e C hs⟩

/-- … and positive semidefinite (over ℝ, ℚ: trivial star) — whatever `eigh` returned -/
theorem shampoo_block_root_psd [StarRing α] [TrivialStar α] [StarOrderedRing α] (hp : α → α) (cut : α)
    (e : EighOut α n) : (Matrix.of (rootOfEigh hp cut e)).PosSemidef := by
  rw [rootOfEigh_eq]
  exact Loewner.conj_diagonal_psd _ fun a => mul_self_nonneg _

/-- an eigenvalue is dropped exactly when it is `≤ cut · (largest eigenvalue of the same block)`; retained ones are positive -/
theorem eigenvalue_cut_is_per_block (hp : α → α) (cut : α) (hcut : 0 ≤ cut) (w : Fin n → α) (hw : ∀ a, 0 ≤ w a) (a : Fin n) :
    (half hp cut w a = if cut * wmax w < w a then hp (w a) else 0) ∧ (kept cut w a = true → 0 < w a) := by
  refine ⟨?_, kept_pos cut hcut w hw a⟩
  simp [half, kept]

/-- the stored preconditioner does not depend on WHICH eigendecomposition `eigh` returns: any two outputs meeting the
specification for the same statistics give the same matrix (same retained set — the cut is relative to the same
maximum — and the same inverse root). No hypothesis on the spectrum (repeated or zero eigenvalues included). -/
theorem block_root_independent_of_eigh (hp : α → α) (cut : α) (C : Matrix (Fin n) (Fin n) α) (e e' : EighOut α n)
    (hs : EighSpec C e) (hs' : EighSpec C e') : rootOfEigh hp cut e = rootOfEigh hp cut e' :=
  rootOfEigh_unique hp cut C e e' hs hs'

/-- **zero_padding_invisible**: let `C` be the statistics of a block and `blockdiag(C, 0)` (`padFn k C`) those of the same
block zero-padded by `k` rows/columns. Whatever `eigh` returns for the padded statistics (specification only), the stored
preconditioner is `blockdiag(root C, 0)`: its real block IS the preconditioner of the unpadded block, everything else is
exactly zero. -/
theorem zero_padding_invisible (hp : α → α) (cut : α) (hcut : 0 ≤ cut) (C : Matrix (Fin n) (Fin n) α)
    (e : EighOut α n) (hs : EighSpec C e) (hw : ∀ a, 0 ≤ e.w a) (k : ℕ) (e' : EighOut α (n + k))
    (hs' : EighSpec (Matrix.of (padFn k C)) e') :
    rootOfEigh hp cut e' = padFn k (rootOfEigh hp cut e) :=
  rootOfEigh_padFn hp cut hcut C e hs hw k e' hs'

/-- … hence the values delivered for real entries are those of the unpadded computation, and padding entries receive
exactly 0 — for ANY content `x'` of the padded positions of the input. -/
theorem zero_padding_invisible_apply (hp : α → α) (cut : α) (hcut : 0 ≤ cut) (C : Matrix (Fin n) (Fin n) α)
    (e : EighOut α n) (hs : EighSpec C e) (hw : ∀ a, 0 ≤ e.w a) (k : ℕ) (e' : EighOut α (n + k))
    (hs' : EighSpec (Matrix.of (padFn k C)) e') (x' : Fin (n + k) → α) :
    (∀ i : Fin n, ∑ c, rootOfEigh hp cut e' (Fin.castAdd k i) c * x' c
        = ∑ c : Fin n, rootOfEigh hp cut e i c * x' (Fin.castAdd k c)) ∧
    (∀ i : Fin k, ∑ c, rootOfEigh hp cut e' (Fin.natAdd n i) c * x' c = 0) := by
  rw [zero_padding_invisible hp cut hcut C e hs hw k e' hs']
  constructor
  · intro i
    rw [Fin.sum_univ_add]
    simp only [padFn_ll, padFn_lr, zero_mul, Finset.sum_const_zero, add_zero]
  · intro i
    simp only [padFn_r, zero_mul, Finset.sum_const_zero]

/-- the hypothesis of `zero_padding_invisible` holds along every history: the statistics contribution of a gradient with
zero-padded rows is `blockdiag(G Gᵀ, 0)`, and `_ema_update` keeps that form -/
theorem padded_statistics_stay_padded (k m : ℕ) (decay : α) (S : Fin n → Fin n → α) (G : Fin n → Fin m → α)
    (G' : Fin (n + k) → Fin m → α) (hl : ∀ i c, G' (Fin.castAdd k i) c = G i c) (hr : ∀ i c, G' (Fin.natAdd n i) c = 0) :
    (fun i j => emaScalar decay (padFn k S i j) (∑ c, G' i c * G' j c))
      = padFn k (fun i j => emaScalar decay (S i j) (∑ c, G i c * G j c)) := by
  rw [← padFn_ema, ← padFn_gram k m G G' hl hr]

/-- a coordinate on which the statistics vanish carries no weight in any retained eigenvector, and the corresponding rows
and columns of the preconditioner are exactly zero (no block structure assumed) -/
theorem padded_rows_and_columns_vanish (hp : α → α) (cut : α) (hcut : 0 ≤ cut) (C : Matrix (Fin n) (Fin n) α)
    (e : EighOut α n) (hs : EighSpec C e) (hw : ∀ a, 0 ≤ e.w a) (i : Fin n) (hrow : ∀ j, C i j = 0) (j : Fin n) :
    rootOfEigh hp cut e i j = 0 ∧ rootOfEigh hp cut e j i = 0 ∧
    (∀ a, kept cut e.w a = true → e.V i a = 0) := by
  have h1 := rootOfEigh_zero_row hs hp cut hcut hw i hrow
  have hsym := congrFun (congrFun (rootOfEigh_transpose hp cut e) i) j
  simp only [Matrix.transpose_apply, Matrix.of_apply] at hsym
  exact ⟨h1 j, by rw [hsym]; exact h1 j, fun a hk => retained_vec_zero hs cut hcut hw i hrow a hk⟩

end Root

section Cadence
variable {α : Type} [Field α] [LinearOrder α] [IsStrictOrderedRing α]

/-- **statistics closed form, `second_moment_decay = 1`**: every entry of every block statistic is its initial value plus
the plain sum of the contributions `new t` of the statistics-refresh steps (`t % update_statistics_freq = 0`) -/
theorem statistics_closed_form_sum (sf : ℕ) (new : ℕ → α) (S₀ : α) (T : ℕ) :
    statRun 1 sf new S₀ T = S₀ + ∑ t ∈ Finset.range T, if t % sf = 0 then new t else 0 := by
  simpa only [one_pow, one_mul] using statRun_affine 1 1 1 (fun old new => by simp [emaScalar]) sf new S₀ T

/-- **statistics closed form, `second_moment_decay = β ≠ 1`**: an exponential moving average over the refresh steps only —
the contribution of refresh step `t` has weight `(1-β)·β^(number of refresh steps after t)`, the initial value `β^(number of
refresh steps)`; a step that is not a refresh step neither adds nor decays anything. By induction over the history. -/
theorem statistics_closed_form_ema (β : α) (hβ : β ≠ 1) (sf : ℕ) (new : ℕ → α) (S₀ : α) (T : ℕ) :
    statRun β sf new S₀ T = β ^ refreshes sf T * S₀ +
      ∑ t ∈ Finset.range T,
        if t % sf = 0 then (1 - β) * β ^ (refreshes sf T - refreshes sf (t + 1)) * new t else 0 :=
  statRun_affine β β (1 - β) (fun old new => by simp [emaScalar, hβ, mul_comm]) sf new S₀ T

/-- with `update_statistics_freq = 1` every step counts: `refreshes 1 t = t` -/
theorem statistics_every_step (t : ℕ) : refreshes 1 t = t := by
  unfold refreshes
  simp [Nat.mod_one]

end Cadence

section CadenceModel
variable {α : Type} [Zero α] [One α] [Add α] [Sub α] [Mul α] [LT α] [DecidableLT α] [BEq α] [Max α] {P : Type}

/-- `statRun` is what `shampooTx` does to each entry: `_ema_update` acts entry by entry on the stored arrays -/
theorem statistics_update_entrywise (decay : α) (old new : Array α) (k : ℕ) (h : k < old.size) :
    rd (emaUpdate decay old new) k = emaScalar decay (rd old k) (rd new k) :=
  rd_tab _ _ k h

/-- **cadence of `shampoo._update`** with `c = state.count`: statistics refreshed from this step's blocked gradient iff
`c % update_statistics_freq = 0`; THEN roots recomputed from the refreshed statistics iff `c % update_preconditioners_freq = 0`;
the gradient preconditioned with the resulting roots; count + 1. -/
theorem shampoo_cadence (eigh : EighFn α) (hp : ℕ → α → α) (cut decay : α) (bs sf pf : ℕ) (ps : List ℕ)
    (u : List α) (st : ShState α) (x : P) :
    let m := blocksMetadata bs ps
    let Bt := blockify (ofFlatL ps u) m
    let xs := (List.range m.numBlocks).map fun n => extractBlock Bt.flat.toArray Bt.shape m.blockSizes m.blocksAxis n
    let bl₁ := if st.count % sf = 0 then List.zipWith (blockStatsUpdate decay m.blockSizes) xs st.blocks else st.blocks
    let bl₂ := if st.count % pf = 0 then bl₁.map (blockPrecondUpdate eigh (hp (shampooExponent ps)) cut m.blockSizes) else bl₁
    ((shampooTx (P := P) eigh hp cut decay bs sf pf ps).update u st x).2 = ⟨st.count + 1, bl₂⟩ ∧
    ((shampooTx (P := P) eigh hp cut decay bs sf pf ps).update u st x).1 =
      (deblockify (ofFlat Bt.shape
        (assembleBlocks (List.zipWith (blockApply m.blockSizes) xs bl₂) Bt.shape m.blockSizes m.blocksAxis)) m).flat :=
  shampoo_update_cadence eigh hp cut decay bs sf pf ps u st x

/-- on a preconditioner-refresh step every stored root is `_pth_inv_root` of the statistic stored next to it — the
statistics AFTER this step's update, whether or not this step refreshed them -/
theorem refresh_step_roots_of_current_statistics (eigh : EighFn α) (hp : ℕ → α → α) (cut decay : α) (bs sf pf : ℕ)
    (ps : List ℕ) (u : List α) (st : ShState α) (x : P) (hpf : st.count % pf = 0) :
    ∀ b ∈ ((shampooTx (P := P) eigh hp cut decay bs sf pf ps).update u st x).2.blocks,
      b.roots = List.zipWith (fun d C => blockRoot eigh (hp (shampooExponent ps)) cut d C)
        (blocksMetadata bs ps).blockSizes b.stats := by
  intro b hb
  rw [(shampoo_cadence eigh hp cut decay bs sf pf ps u st x).1] at hb
  simp only [hpf, if_true] at hb
  obtain ⟨b₀, _, rfl⟩ := List.mem_map.mp hb
  exact blockPrecondUpdate_roots ..

/-- on every other step the roots are carried over unchanged -/
theorem other_steps_keep_roots (eigh : EighFn α) (hp : ℕ → α → α) (cut decay : α) (bs sf pf : ℕ)
    (ps : List ℕ) (u : List α) (st : ShState α) (x : P) (hpf : st.count % pf ≠ 0)
    (hlen : st.blocks.length = (blocksMetadata bs ps).numBlocks) :
    (((shampooTx (P := P) eigh hp cut decay bs sf pf ps).update u st x).2.blocks.map fun b => b.roots)
      = st.blocks.map fun b => b.roots := by
  rw [(shampoo_cadence eigh hp cut decay bs sf pf ps u st x).1]
  simp only [hpf, if_false]
  split
  · apply List.ext_getElem
    · simp [hlen]
    · intro i h1 h2
      simp [blockStatsUpdate]
  · rfl

/-- and when it is not a statistics-refresh step the statistics are carried over unchanged -/
theorem other_steps_keep_statistics (eigh : EighFn α) (hp : ℕ → α → α) (cut decay : α) (bs sf pf : ℕ)
    (ps : List ℕ) (u : List α) (st : ShState α) (x : P) (hsf : st.count % sf ≠ 0) :
    (((shampooTx (P := P) eigh hp cut decay bs sf pf ps).update u st x).2.blocks.map fun b => b.stats)
      = st.blocks.map fun b => b.stats := by
  rw [(shampoo_cadence eigh hp cut decay bs sf pf ps u st x).1]
  simp only [hsf, if_false]
  split
  · simp [blockPrecondUpdate, Function.comp_def]
  · rfl

end CadenceModel

/-- NEGATIVE (regression documentation of D7, repaired by `fix:` 45ad67a): with the cut taken relative to the largest
eigenvalue over ALL blocks of the batch, a block whose statistics are `10⁻⁸` times another block's gets a ZERO
preconditioner — its update vanishes — while the per-block rule keeps it. Witness: 1×1 block, `w = 10⁻⁸`, global max 1. -/
theorem global_max_cut_drops_small_block :
    rootOfEighGlobalMax (fun _ : ℚ => 1) (1 / 1000000) 1 (⟨fun _ => 1 / 100000000, fun _ _ => 1⟩ : EighOut ℚ 1) 0 0 = 0 ∧
    rootOfEigh (fun _ : ℚ => 1) (1 / 1000000) (⟨fun _ => 1 / 100000000, fun _ _ => 1⟩ : EighOut ℚ 1) 0 0 = 1 := by
  constructor
  · norm_num [rootOfEighGlobalMax, sumFin_eq]
  · norm_num [rootOfEigh, half, kept, wmax, vmax, sumFin_eq]

/-! ## Non-vacuity: the hypotheses are satisfiable -/

/-- the real power `x ↦ x ** (-0.5/p)` meets `HpSpec` for every `p > 0` -/
example (p : ℕ) (hp : 0 < p) : HpSpec (fun x : ℝ => x ^ (-(1 / (2 * (p : ℝ))))) p := by
  intro x hx
  refine ⟨Real.rpow_pos_of_pos hx _, ?_⟩
  have hp' : (p : ℝ) ≠ 0 := Nat.cast_ne_zero.mpr (Nat.pos_iff_ne_zero.mp hp)
  rw [← Real.rpow_add hx, ← Real.rpow_natCast, ← Real.rpow_mul hx.le]
  have : (-(1 / (2 * (p : ℝ))) + -(1 / (2 * (p : ℝ)))) * (p : ℝ) = -1 := by field_simp; ring
  rw [this, Real.rpow_neg_one, inv_mul_cancel₀ (ne_of_gt hx)]

/-- an `eigh` output meeting `EighSpec` with a retained and a dropped eigenvalue: `C = diag(4, 0)` -/
example : EighSpec (Matrix.diagonal ![(4 : ℝ), 0]) (⟨![4, 0], fun i j => if i = j then 1 else 0⟩ : EighOut ℝ 2) :=
  eighSpec_diagonal _

/-- the hypothesis of `zero_padding_invisible` on the padded side is satisfiable whenever the unpadded one is:
`(V ⊕ 1, w ⊕ 0)` meets the `eigh` specification for `blockdiag(C, 0)` -/
example {n : ℕ} (k : ℕ) (C : Matrix (Fin n) (Fin n) ℝ) (e : EighOut ℝ n) (hs : EighSpec C e) :
    EighSpec (Matrix.of (padFn k C)) (padEigh k e) := padEigh_spec k C e hs

/-- a statistics history meeting `statistics_closed_form_ema`: `β = 1/2`, refresh every 2nd step, three steps -/
example : statRun (1 / 2 : ℚ) 2 (fun t => (t : ℚ) + 1) 0 3 = 7 / 4 := by
  norm_num [statRun, emaScalar]

/-- a configuration meeting the hypotheses of `tearfree_is_composition` and `momentum_formulas` -/
example : (GType.rmsprop ≠ GType.none) ∧ Graft.tfMaskSkipped true 4096 [4, 6] = false ∧
    ((⟨true, true, 9 / 10, 0, true⟩ : MomOpts ℚ).decay ≠ 0) ∧ ¬ (0 < (⟨true, true, 9 / 10, 0, true⟩ : MomOpts ℚ).wd) := by
  refine ⟨by decide, by decide, by norm_num, by norm_num⟩

/-- `merge_pad_roundtrip`'s hypotheses on a padded leaf: `(5, 3)` with block size 4 -/
example : ([1, 2, 3, 4, 5, 6, 7, 8, 9, 10, 11, 12, 13, 14, 15] : List ℚ).length = prod [5, 3] ∧ ∀ d ∈ [5, 3], 1 ≤ d := by
  decide

end PrecondVerif.C15
