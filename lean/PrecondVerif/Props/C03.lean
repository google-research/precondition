/-
C03 — a preconditioner is replaced only by a verified root; failures never leak.

Only property theorems and non-vacuity examples live here; helper lemmas are in `Lemmas/Gate.lean`,
the model in `Model/Gate.lean` (the definitions the driver `drv_c03` executes).

Reported errors and the threshold are `XF` values (every float32/float64 bit pattern is one, with IEEE
`≥`, `<`, `isnan`); candidates, stored values and statistics slices are values of an arbitrary type `π`
and the root results `(cand, err)` of every step are adversarial: nothing is assumed about them.
The threshold is a configuration constant assumed non-NaN (a NaN threshold is outside the statement:
`x ≥ NaN` is false for every `x`, so the gate would accept every non-NaN error).
Histories are lists of any length (induction); `itv` is any refresh interval, `count` any start counter.
-/
import PrecondVerif.Lemmas.Gate

namespace PrecondVerif.C03
open PrecondVerif.Gate

/-- `_select_preconditioner`: the result is the old value, or it is the candidate and then the reported
error is not NaN and strictly below the threshold — for every non-NaN threshold including `0` and `+∞`. -/
theorem gate_spec {π : Type} (err thr : XF) (hthr : thr.isNaN = false) (new old : π) :
    select err thr new old = old
      ∨ (select err thr new old = new ∧ err.isNaN = false ∧ err.lt thr = true) :=
  select_spec hthr new old

/-- The gate is exactly the comparison: candidate taken iff the error is non-NaN and below the threshold. -/
theorem gate_decision {π : Type} (err thr : XF) (hthr : thr.isNaN = false) (new old : π) :
    select err thr new old = if (!err.isNaN && err.lt thr) then new else old :=
  select_eq_ite hthr new old

/-- A NaN error, an error equal to the threshold and `+∞` are always rejected; with threshold `0` every
non-negative error is rejected. -/
theorem gate_rejects {π : Type} (thr : XF) (hthr : thr.isNaN = false) (new old : π) :
    select XF.nan thr new old = old ∧ select thr thr new old = old ∧ select XF.pinf thr new old = old
      ∧ ∀ e : XF, e.ge (XF.fin 0) = true → select e (XF.fin 0) new old = old := by
  refine ⟨select_of_skip _ _ (skip_nan thr), select_self hthr new old, ?_, ?_⟩
  · apply select_of_skip
    cases thr <;> simp_all [skip, XF.isNaN, XF.ge]
  · intro e he
    apply select_of_skip
    simp [skip, he]

/-- An accepted error that is non-negative (the reported error is a max of absolute values) is finite. -/
theorem accepted_error_finite (err thr : XF) (hlt : err.lt thr = true) (h0 : err.ge (XF.fin 0) = true) :
    err.isFinite = true := by
  obtain ⟨hnan, hinf⟩ := XF.finite_or_ninf_of_lt hlt
  cases err with
  | fin _ => rfl
  | pinf => exact absurd rfl hinf
  | ninf => exact absurd h0 Bool.false_ne_true
  | nan => exact absurd hnan.symm Bool.false_ne_true

/-- Non-refresh steps: `efficient_cond` hands the statistics slice with `error = threshold` to the gate,
which keeps the stored value — the slot and its stored error are bit-identical. -/
theorem nonrefresh_keeps_old {π : Type} {sel : Selector π} (hsel : SelOK sel) (thr : XF) (hthr : thr.isNaN = false)
    (itv count : Nat) (s : Slot π) (i : Inp π) (hn : count % itv ≠ 0) :
    slotStep sel thr itv count s i = s := by
  have hp : performStep itv count = false := Bool.eq_false_iff.mpr (mt performStep_iff.mp hn)
  rw [slotStep_eq hsel, hp, if_neg Bool.false_ne_true, select_self hthr]

/-- Quantized mode: the three parallel selects on (quantized matrix, diagonal, bucket sizes) take the same
branch — the stored triple is the whole old triple or the whole candidate triple. -/
theorem quantized_triple_consistent {κ δ β : Type} (err thr : XF) (new old : κ × δ × β) :
    selectTriple err thr new old = select err thr new old := by
  unfold selectTriple select
  cases skip err thr <;> rfl

/-- Sharded mode (repaired): `jnp.where(predicate, old, new)` over the entries of a slot is the select. -/
theorem sharded_where_is_select {α : Type} {n : Nat} (err thr : XF) (new old : Vector α n) :
    selectWhere err thr new old = select err thr new old :=
  whereSel_eq _ old new

/-- Sharded mode, all slots at once: slot `k` of the result is the select of slot `k`. -/
theorem sharded_gate_slotwise {α : Type} {n : Nat} (thr : XF) (errs : List XF) (olds news : List (Vector α n))
    (k : Nat) (h1 : k < errs.length) (h2 : k < olds.length) (h3 : k < news.length) :
    (shardedGate thr errs olds news)[k]? = some (select errs[k] thr news[k] olds[k]) := by
  induction k generalizing errs olds news with
  | zero =>
    match errs, olds, news, h1, h2, h3 with
    | e :: _, o :: _, c :: _, _, _, _ => exact congrArg some (sharded_where_is_select e thr c o)
  | succ k ih =>
    match errs, olds, news, h1, h2, h3 with
    | _ :: es, _ :: os, _ :: cs, h1, h2, h3 =>
      exact ih es os cs (Nat.lt_of_succ_lt_succ h1) (Nat.lt_of_succ_lt_succ h2) (Nat.lt_of_succ_lt_succ h3)

/-- Over every fault history the stored value of a slot is the initial one or the candidate of a step of
the history at which a refresh was due and whose reported error was non-NaN and below the threshold. -/
theorem slots_inv {π : Type} {sel : Selector π} (hsel : SelOK sel) (thr : XF) (hthr : thr.isNaN = false) (itv count : Nat)
    (s0 : Slot π) (is : List (Inp π)) :
    (slotRun sel thr itv count s0 is).precond = s0.precond
      ∨ ∃ k, ∃ h : k < is.length, (slotRun sel thr itv count s0 is).precond = (is[k]'h).cand
          ∧ (count + k) % itv = 0 ∧ (is[k]'h).err.isNaN = false ∧ (is[k]'h).err.lt thr = true := by
  induction is generalizing count s0 with
  | nil => exact Or.inl rfl
  | cons i is ih =>
    rw [slotRun_cons]
    rcases ih (count + 1) (slotStep sel thr itv count s0 i) with h | ⟨k, hk, h1, h2⟩
    · rcases slotStep_spec hsel hthr itv count s0 i with h' | ⟨h', hacc⟩
      · exact Or.inl (h.trans h')
      · exact Or.inr ⟨0, Nat.zero_lt_succ _, h.trans h', hacc⟩
    · rw [Nat.add_right_comm, Nat.add_assoc] at h2
      exact Or.inr ⟨k + 1, Nat.succ_lt_succ hk, h1, h2⟩

/-- If the initial value is good (e.g. finite) and every candidate whose error passes the gate is good
(supplied by the root computation: a finite error below the threshold certifies a finite root), then the
stored value is good after every fault history — whatever the rejected candidates, statistics slices and
errors were. -/
theorem slots_finite {π : Type} {sel : Selector π} (hsel : SelOK sel) (thr : XF) (hthr : thr.isNaN = false) (itv count : Nat)
    (Good : π → Prop) (s0 : Slot π) (is : List (Inp π)) (h0 : Good s0.precond)
    (hroot : ∀ i ∈ is, i.err.isNaN = false → i.err.lt thr = true → Good i.cand) :
    Good (slotRun sel thr itv count s0 is).precond := by
  rcases slots_inv hsel thr hthr itv count s0 is with h | ⟨k, hk, h1, _, h2, h3⟩
  · rw [h]
    exact h0
  · rw [h1]
    exact hroot _ (List.getElem_mem hk) h2 h3

/-- Warm-started roots (`reuse_preconditioner`; `frequent_directions`, where the sketch being updated IS the stored packed
preconditioner, and low-rank packed slots in general — the slot value is any type `π`): the root result may depend on the
value currently stored. If the root maps a good stored value to a good candidate whenever its reported error passes the
gate, the stored value stays good for ever — a single accepted bad candidate is what would poison the sketch. -/
theorem slots_finite_warm_start {π : Type} {sel : Selector π} (hsel : SelOK sel) (thr : XF) (hthr : thr.isNaN = false)
    (itv count n : Nat) (root : WarmRoot π) (Good : π → Prop) (s0 : Slot π) (h0 : Good s0.precond)
    (hroot : ∀ c p, Good p → (root c p).err.isNaN = false → (root c p).err.lt thr = true → Good (root c p).cand) :
    Good (slotRunDep sel thr itv root count s0 n).precond := by
  induction n generalizing count s0 with
  | zero => exact h0
  | succ n ih =>
    exact ih (count + 1) _ (slotStep_good hsel hthr itv count Good s0 _ h0 (hroot count s0.precond h0))

/-- One warm-started step obeys the same gate specification: kept, or the candidate computed from the stored value with a
non-NaN error below the threshold on a refresh step. -/
theorem warm_start_step_spec {π : Type} {sel : Selector π} (hsel : SelOK sel) (thr : XF) (hthr : thr.isNaN = false)
    (itv count : Nat) (root : WarmRoot π) (s : Slot π) :
    (slotStepDep sel thr itv count root s).precond = s.precond
      ∨ ((slotStepDep sel thr itv count root s).precond = (root count s.precond).cand
          ∧ count % itv = 0 ∧ (root count s.precond).err.isNaN = false ∧ (root count s.precond).err.lt thr = true) :=
  slotStep_spec hsel hthr itv count s (root count s.precond)

/-- Periodic reset of the warm start (`reset_preconditioner`): the zeroed copy only feeds the root. One step still keeps the
stored value bit for bit, or stores the candidate of an accepted refresh — on reset steps too. -/
theorem reset_step_spec {π : Type} {sel : Selector π} (hsel : SelOK sel) (thr : XF) (hthr : thr.isNaN = false)
    (itv : Nat) (rf : Option Nat) (zero : π → π) (count : Nat) (root : WarmRoot π) (s : Slot π) :
    (slotStepReset sel thr itv rf zero count root s).precond = s.precond
      ∨ ((slotStepReset sel thr itv rf zero count root s).precond = (root count (warmStart rf zero count s.precond)).cand
          ∧ count % itv = 0 ∧ (root count (warmStart rf zero count s.precond)).err.isNaN = false
          ∧ (root count (warmStart rf zero count s.precond)).err.lt thr = true) :=
  warm_start_step_spec hsel thr hthr itv count (fun c p => root c (warmStart rf zero c p)) s

/-- A reset step that is not a refresh step leaves the slot (stored value and stored error) untouched. -/
theorem reset_nonrefresh_keeps_old {π : Type} {sel : Selector π} (hsel : SelOK sel) (thr : XF) (hthr : thr.isNaN = false)
    (itv : Nat) (rf : Option Nat) (zero : π → π) (count : Nat) (root : WarmRoot π) (s : Slot π) (hn : count % itv ≠ 0) :
    slotStepReset sel thr itv rf zero count root s = s := by
  unfold slotStepReset
  exact nonrefresh_keeps_old hsel thr hthr itv count s _ hn

/-- Goodness (e.g. finiteness) is preserved for ever with a periodically reset warm start, provided the root turns the warm
start it is given into a good candidate whenever its reported error passes the gate. -/
theorem slots_finite_reset {π : Type} {sel : Selector π} (hsel : SelOK sel) (thr : XF) (hthr : thr.isNaN = false)
    (itv : Nat) (rf : Option Nat) (zero : π → π) (count n : Nat) (root : WarmRoot π) (Good : π → Prop) (s0 : Slot π)
    (h0 : Good s0.precond)
    (hroot : ∀ c p, Good p → (root c (warmStart rf zero c p)).err.isNaN = false → (root c (warmStart rf zero c p)).err.lt thr = true
      → Good (root c (warmStart rf zero c p)).cand) :
    Good (slotRunReset sel thr itv rf zero root count s0 n).precond := by
  rw [slotRunReset_eq_slotRunDep]
  exact slots_finite_warm_start hsel thr hthr itv count n _ Good s0 h0 hroot

/-- Negative: applying the reset IN PLACE to the list that is also the old operand of the gate violates the specification —
on a reset step whose root is rejected (NaN error) the slot becomes the zeroed value, neither the old value nor the candidate;
and on a reset step that is not a refresh step as well. -/
theorem reset_in_place_leaks :
    (slotStepResetInPlace select (XF.fin (1/10)) 1 (some 4) (fun _ => (0 : Nat)) 4 (fun _ _ => ⟨5, XF.nan, 6⟩) ⟨7, XF.fin 0⟩).precond = 0
      ∧ (slotStepResetInPlace select (XF.fin (1/10)) 3 (some 4) (fun _ => (0 : Nat)) 4 (fun _ _ => ⟨5, XF.fin 0, 6⟩) ⟨7, XF.fin 0⟩).precond = 0
      ∧ (slotStepReset select (XF.fin (1/10)) 1 (some 4) (fun _ => (0 : Nat)) 4 (fun _ _ => ⟨5, XF.nan, 6⟩) ⟨7, XF.fin 0⟩).precond = 7
      ∧ (slotStepReset select (XF.fin (1/10)) 3 (some 4) (fun _ => (0 : Nat)) 4 (fun _ _ => ⟨5, XF.fin 0, 6⟩) ⟨7, XF.fin 0⟩).precond = 7 := by
  refine ⟨?_, ?_, ?_, ?_⟩ <;> decide +kernel

/-- The whole optimizer state (all slots driven by the same counter, any number of slots): if all initial
preconditioners are good and every candidate whose error passes the gate is good, every stored
preconditioner is good after every fault history. -/
theorem state_slots_finite {π : Type} {sel : Selector π} (hsel : SelOK sel) (thr : XF) (hthr : thr.isNaN = false)
    (itv count : Nat) (Good : π → Prop) (ss : List (Slot π)) (hist : List (List (Inp π)))
    (h0 : ∀ s ∈ ss, Good s.precond)
    (hroot : ∀ ins ∈ hist, ∀ i ∈ ins, i.err.isNaN = false → i.err.lt thr = true → Good i.cand) :
    ∀ s ∈ stateRun sel thr itv count ss hist, Good s.precond := by
  induction hist generalizing count ss with
  | nil => exact h0
  | cons ins rest ih =>
    exact ih (count + 1) _
      (stateStep_good hsel hthr itv count Good ss ins h0 (hroot ins (List.mem_cons_self ..)))
      (fun ins' h' => hroot ins' (List.mem_cons_of_mem _ h'))

/-- The three modes satisfy the hypothesis `SelOK` of the invariants. -/
theorem modes_selOK {π κ δ β α : Type} {n : Nat} :
    SelOK (select : Selector π) ∧ SelOK (selectTriple : Selector (κ × δ × β))
      ∧ SelOK (selectWhere : Selector (Vector α n)) :=
  ⟨fun _ _ _ _ => rfl, quantized_triple_consistent, sharded_where_is_select⟩

/-- IEEE facts of `XF` the gate depends on: NaN absorbs, `0 * ∞`, `∞ - ∞` are NaN, every comparison with NaN is false. -/
theorem xf_ieee_facts (x : XF) (q : Rat) :
    XF.nan + x = XF.nan ∧ x + XF.nan = XF.nan ∧ XF.nan * x = XF.nan ∧ x * XF.nan = XF.nan
      ∧ (XF.fin 0) * XF.pinf = XF.nan ∧ XF.pinf - XF.pinf = XF.nan ∧ XF.pinf + XF.ninf = XF.nan
      ∧ XF.ge XF.nan x = false ∧ XF.ge x XF.nan = false ∧ XF.lt XF.nan x = false ∧ XF.lt x XF.nan = false
      ∧ XF.ge XF.pinf (XF.fin q) = true ∧ XF.lt (XF.fin q) XF.pinf = true := by
  exact ⟨XF.nan_add x, XF.add_nan x, XF.nan_mul x, XF.mul_nan x, rfl, rfl, rfl,
    XF.ge_nan_left x, XF.ge_nan_right x, XF.lt_nan_left x, XF.lt_nan_right x, rfl, rfl⟩

/-- `predicate*old + (1-predicate)*new`, the arithmetic blend of the unrepaired sharded path, violates
`gate_spec`: a rejected NaN candidate (NaN error) replaces a finite stored entry by NaN — in `XF` for
every finite old entry and every non-NaN threshold, and in IEEE binary64 on a concrete witness. -/
theorem arith_blend_leaks :
    (∀ (q : Rat) (thr : XF), arithGate XF.nan thr XF.nan (XF.fin q) = XF.nan
        ∧ ¬ (arithGate XF.nan thr XF.nan (XF.fin q) = XF.fin q
              ∨ (arithGate XF.nan thr XF.nan (XF.fin q) = XF.nan ∧ XF.nan.isNaN = false ∧ XF.nan.lt thr = true)))
      ∧ (arithBlend (1.0 : Float) 2.0 (0.0 / 0.0)).isNaN = true
      ∧ (arithBlend (1.0 : Float) 2.0 (1.0 / 0.0)).isNaN = true := by
  refine ⟨fun q thr => ?_, by decide +kernel, by decide +kernel⟩
  have h : arithGate XF.nan thr XF.nan (XF.fin q) = XF.nan := by
    simp only [arithGate, arithBlend, XF.mul_nan, XF.add_nan]
  refine ⟨h, ?_⟩
  rw [h]
  simp [XF.isNaN]

/-- The blend is harmless only on finite data: for finite entries it equals the select. -/
theorem arith_blend_finite_ok (err thr : XF) (a b : Rat) :
    arithGate err thr (XF.fin a) (XF.fin b) = select err thr (XF.fin a) (XF.fin b) := by
  unfold arithGate arithBlend skipAs select
  cases skip err thr
  · rw [if_neg Bool.false_ne_true, if_neg Bool.false_ne_true, XF.zero_eq, XF.one_eq, XF.fin_sub, XF.fin_mul,
      XF.fin_mul, XF.fin_add]
    have h : 0 * b + (1 - 0) * a = a := by
      rw [Rat.zero_mul, Rat.zero_add, Rat.sub_eq_add_neg, Rat.neg_zero, Rat.add_zero, Rat.one_mul]
    rw [h]
  · rw [if_pos rfl, if_pos rfl, XF.one_eq, XF.fin_sub, XF.fin_mul, XF.fin_mul, XF.fin_add]
    have h : 1 * b + (1 - 1) * a = b := by
      rw [Rat.one_mul, Rat.sub_self, Rat.zero_mul, Rat.add_zero]
    rw [h]

/-! ### non-vacuity -/

/-- thresholds `0`, `0.1`, `+∞` and errors NaN / below / equal / above: the hypotheses are satisfiable and
both branches of `gate_spec` occur -/
example : select (XF.fin (1/100)) (XF.fin (1/10)) "new" "old" = "new" := by decide +kernel
example : select (XF.fin (1/10)) (XF.fin (1/10)) "new" "old" = "old" := by decide +kernel
example : select XF.nan (XF.fin (1/10)) "new" "old" = "old" := by decide +kernel
example : select (XF.fin 0) (XF.fin 0) "new" "old" = "old" := by decide +kernel
example : select (XF.fin 1000) XF.pinf "new" "old" = "new" := by decide +kernel
example : select XF.pinf XF.pinf "new" "old" = "old" := by decide +kernel
example : (XF.fin (1/10)).isNaN = false ∧ XF.pinf.isNaN = false ∧ (XF.fin 0).isNaN = false := by decide +kernel

/-- a history with an accepted root, a NaN root, a non-refresh step and a too-large error: the slot ends
with the last accepted candidate: refreshing every step → candidate 4 (step 3), every 2nd step → candidate 1
(step 0; step 2 is rejected), every 3rd step → candidate 4 (step 3) -/
example :
    (fun (is : List (Inp Nat)) =>
      (slotRun select (XF.fin (1/10)) 1 0 ⟨0, XF.fin 0⟩ is).precond = 4
        ∧ (slotRun select (XF.fin (1/10)) 2 0 ⟨0, XF.fin 0⟩ is).precond = 1
        ∧ (slotRun select (XF.fin (1/10)) 3 0 ⟨0, XF.fin 0⟩ is).precond = 4)
      [⟨1, XF.fin (1/1000), 101⟩, ⟨2, XF.nan, 102⟩, ⟨3, XF.fin (1/2), 103⟩, ⟨4, XF.fin 0, 104⟩] := by
  refine ⟨?_, ?_, ?_⟩ <;> decide +kernel

/-- float32 bit patterns decode exactly: `0x3dcccccd` is the float32 nearest to 0.1, `0x7fc00000` a NaN -/
example : XF.ofBits32 0x3dcccccd = XF.fin (13421773 / 134217728) ∧ XF.ofBits32 0x7fc00000 = XF.nan
    ∧ XF.ofBits32 0xff800000 = XF.ninf ∧ XF.ofBits32 0x3f800000 = XF.fin 1 := by decide +kernel

end PrecondVerif.C03
