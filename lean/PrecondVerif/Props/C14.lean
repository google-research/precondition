/-
C14 — training resumes bit-identically from serialized optimizer state at any step.

Property theorems about the pytree / state-dict model `Model/PyTree.lean` (the definitions `drv_c14`
executes): the run-split law, the state-dict round trip, the static part of reachable states, and
resumption at every interruption point — for every tree (any depth, width, node kinds), every pure
step function, every gradient history and every `k` (induction, no bounds).  Helper lemmas are in
`Lemmas/PyTree.lean`.

What the theorems cannot carry (decided on executed runs only, by `harness/props/c14.py`):
purity of the Python implementation (that `update` *is* a function of `(grads, state, params)`),
fidelity of msgpack for array leaves, and that the layout hypothesis `hpres` holds for the real
optimizers (that is property C07; here it is evaluated on every run).
-/
import PrecondVerif.Lemmas.PyTree
import PrecondVerif.Lemmas.Layout

namespace PrecondVerif.C14
open PrecondVerif.Ser

variable {α σ : Type}

/-- Run-split law, outputs included: running `gs₁ ++ gs₂` is running `gs₁`, then `gs₂` from the state
reached — for ANY pure step function. -/
theorem run_append {S G U : Type} (step : S → G → U × S) (s : S) (gs₁ gs₂ : List G) :
    run step s (gs₁ ++ gs₂) =
      ((run step s gs₁).1 ++ (run step (run step s gs₁).2 gs₂).1,
       (run step (run step s gs₁).2 gs₂).2) :=
  Ser.run_append step s gs₁ gs₂

/-- State-dict round trip: restoring the state dict of `s` into ANY template that differs from `s` at
most in leaf values (`sameStatic`: same node kinds, keys and static field values — what `init` of a
fresh optimizer with the same hyper-parameters returns) gives back exactly `s`.  `wf`: keys of a node
are pairwise distinct (true of every Python dict / class). -/
theorem restore_roundtrip (t s : PyTree α σ) (hwf : wf s = true) (h : sameStatic t s) :
    fromStateDict t (toStateDict s) = .ok s :=
  restore_same t s hwf h

/-- Leaf values of the template are never used: two templates with the same skeleton restore alike. -/
theorem restore_ignores_template_leaves (t t' s : PyTree α σ) (hwf : wf s = true)
    (h : sameStatic t s) (h' : sameStatic t' s) :
    fromStateDict t (toStateDict s) = fromStateDict t' (toStateDict s) := by
  rw [restore_same t s hwf h, restore_same t' s hwf h']

/-- Static fields are NOT written: states that differ only in kinds / static values have the same state
dict (`withStaticOf t s` is `s` carrying `t`'s static part), so no reader can recover them. -/
theorem static_not_serialized (t s : PyTree α σ) :
    toStateDict (withStaticOf t s) = toStateDict s :=
  toStateDict_withStaticOf t s

/-- … and a restore takes them from the template: whenever template and state have the same keys, the
restore succeeds, the result has the *template's* static part and exactly the state's leaves. -/
theorem restore_takes_static_from_template (t s : PyTree α σ) (hwf : wf s = true)
    (h : keyShape t = keyShape s) :
    ∃ r, fromStateDict t (toStateDict s) = .ok r ∧ skeleton r = skeleton t ∧ leaves r = leaves s :=
  ⟨withStaticOf t s, restore_general t s hwf h, skeleton_withStaticOf t s h, leaves_withStaticOf t s⟩

/-- Negative: a static value that changed after `init` is lost by save / restore (this is why every
`pytree_node=False` field of a state class has to be reproduced by `init`). -/
theorem changed_static_is_lost :
    ∃ (t s : PyTree Int Nat), wf s = true ∧ keyShape t = keyShape s ∧
      fromStateDict t (toStateDict s) ≠ .ok s := by
  refine ⟨.node (.dataclass "Q" [("shape", 0)]) [("q", .leaf 0)],
          .node (.dataclass "Q" [("shape", 7)]) [("q", .leaf 5)], by decide, rfl, ?_⟩
  intro h
  rw [restore_general] at h
  · simp [withStaticOf, withStaticOfs] at h
  · decide
  · rfl

/-- Static part invariant: if one step preserves the skeleton (kinds, keys, static values — the layout
fixed point of C07), every state reachable from `s₀` has the skeleton of `s₀`, hence of a fresh `init`. -/
theorem static_invariant {G U : Type} (step : PyTree α σ → G → U × PyTree α σ)
    (hpres : ∀ s g, skeleton (step s g).2 = skeleton s) (s₀ : PyTree α σ) (gs : List G) :
    sameStatic (run step s₀ gs).2 s₀ :=
  run_invariant step (fun s => skeleton s = skeleton s₀) (fun s g h => (hpres s g).trans h) s₀ gs rfl

/-- Resumption at EVERY interruption point `k`, for every pure layout-preserving step function, every
history and every template with the static part of `s₀`: interrupting after `k` steps, serializing,
restoring into the template and continuing yields exactly the updates and the final state of the
uninterrupted run. -/
theorem resume_eq_uninterrupted {G U : Type} (step : PyTree α σ → G → U × PyTree α σ)
    (hpres : ∀ s g, skeleton (step s g).2 = skeleton s)
    (tmpl s₀ : PyTree α σ) (hwf : wf s₀ = true) (hsame : sameStatic tmpl s₀)
    (gs : List G) (k : Nat) :
    resume step tmpl s₀ gs k = .ok (run step s₀ gs) :=
  resume_ok step hpres tmpl s₀ hwf hsame gs k

/-- The same with the weakest hypothesis on the step: an invariant `P` of the reachable states that
pins their skeleton (the step need not preserve the layout of states that never occur). -/
theorem resume_eq_uninterrupted_of_invariant {G U : Type} (step : PyTree α σ → G → U × PyTree α σ)
    (P : PyTree α σ → Prop) (tmpl s₀ : PyTree α σ) (hP0 : P s₀) (hPstep : ∀ s g, P s → P (step s g).2)
    (hPskel : ∀ s, P s → sameStatic s s₀) (hwf : wf s₀ = true) (hsame : sameStatic tmpl s₀)
    (gs : List G) (k : Nat) :
    resume step tmpl s₀ gs k = .ok (run step s₀ gs) :=
  resume_ok_inv step P tmpl s₀ hP0 hPstep hPskel hwf hsame gs k

/-- Checkpointing through the state dict after every single step changes nothing. -/
theorem checkpoint_every_step {G U : Type} (step : PyTree α σ → G → U × PyTree α σ)
    (hpres : ∀ s g, skeleton (step s g).2 = skeleton s)
    (tmpl s₀ : PyTree α σ) (hwf : wf s₀ = true) (hsame : sameStatic tmpl s₀) (gs : List G) :
    runCheckpointed step tmpl s₀ gs = .ok (run step s₀ gs) := by
  induction gs generalizing s₀ with
  | nil => simp [runCheckpointed, run]
  | cons g gs ih =>
    have h1 : skeleton (step s₀ g).2 = skeleton s₀ := hpres s₀ g
    have hw : wf (step s₀ g).2 = true := by rw [wf_eq_of_skeleton_eq _ _ h1]; exact hwf
    have hs : skeleton tmpl = skeleton (step s₀ g).2 := Eq.trans hsame h1.symm
    simp only [runCheckpointed, restore_same tmpl _ hw hs, ih (step s₀ g).2 hw hs, run]

/-- The step function the driver executes (`toyStep`, a `jax.tree.map` over the leaves) satisfies the
layout hypothesis, so the `resume` op of `drv_c14` must agree with its `run` on every input. -/
theorem toyStep_resume (tmpl s₀ : PyTree Int σ) (hwf : wf s₀ = true) (hsame : sameStatic tmpl s₀)
    (gs : List Int) (k : Nat) :
    resume toyStep tmpl s₀ gs k = .ok (run toyStep s₀ gs) :=
  resume_ok toyStep (fun s _ => skeleton_mapLeaves _ s) tmpl s₀ hwf hsame gs k

/-- Lists / tuples built with flax's keys `str(0), str(1), …` have pairwise distinct keys. -/
theorem list_keys_distinct (n : Nat) : nodupKeys (listKeys n) = true := by
  rw [nodupKeys_iff]
  unfold listKeys
  exact List.Pairwise.map _ (fun _ _ hab h => hab (Nat.repr_injective h)) List.nodup_range

/-- Negative: state kept OUTSIDE the pytree (a Python-side counter in the optimizer's closure) breaks
resumption — the restarted process starts from the initial hidden value again. -/
theorem hidden_state_breaks_resume :
    ∃ (step : Nat × PyTree Int Unit → Int → Int × (Nat × PyTree Int Unit)) (s₀ : PyTree Int Unit),
      (∀ h s g, skeleton (step (h, s) g).2.2 = skeleton s) ∧
      (resumeHidden step 0 s₀ s₀ [1, 1] 1).toOption.map Prod.fst ≠
        some (run step (0, s₀) [1, 1]).1 := by
  refine ⟨fun hs g => (g + (hs.1 : Int), (hs.1 + 1, hs.2)), .leaf 0, fun _ _ _ => rfl, ?_⟩
  decide

section layoutInstances
variable {G U : Type}

/-! ### instances for the layout models of C07 (`Model/Layout.lean`)

`layoutOf` reads the C07 layout off a state tree and `skel` is the tree shape the initial layout denotes.
A value-level step function whose states of that layout have that shape (`hskel`) and whose layout moves
as the C07 layout model says (`hstep`; the C07 check ties that model to the real `update` on every run)
resumes exactly, because the initial layout is a fixed point of the layout step (C07's lemmas). -/

/-- Distributed Shampoo (replicated / pmap layouts), any configuration whose update is not rejected. -/
theorem ds_resume_eq_uninterrupted (c : Layout.Cfg) (ps : List (List Nat)) (hacc : Layout.stepRejects c ps = none)
    (layoutOf : PyTree α σ → Layout.DSLayout) (skel : PyTree Unit σ)
    (hskel : ∀ s, layoutOf s = Layout.initLayout c ps → skeleton s = skel)
    (step : PyTree α σ → G → U × PyTree α σ)
    (hstep : ∀ s g, layoutOf s = Layout.initLayout c ps → Layout.layoutStep c ps (layoutOf s) = .ok (layoutOf (step s g).2))
    (tmpl s₀ : PyTree α σ) (h0 : layoutOf s₀ = Layout.initLayout c ps) (ht : layoutOf tmpl = Layout.initLayout c ps)
    (hwf : wf s₀ = true) (gs : List G) (k : Nat) :
    resume step tmpl s₀ gs k = .ok (run step s₀ gs) :=
  resume_of_layout_fixpoint layoutOf (Layout.layoutStep c ps) (Layout.initLayout c ps)
    (Layout.layoutStep_init_accept c ps hacc) skel hskel step hstep tmpl s₀ h0 ht hwf gs k

/-- SM3. -/
theorem sm3_resume_eq_uninterrupted (ps : List (List Nat))
    (layoutOf : PyTree α σ → List Layout.SM3Param) (skel : PyTree Unit σ)
    (hskel : ∀ s, layoutOf s = ps.map Layout.sm3InitParam → skeleton s = skel)
    (step : PyTree α σ → G → U × PyTree α σ)
    (hstep : ∀ s g, layoutOf s = ps.map Layout.sm3InitParam → Layout.sm3Step ps (layoutOf s) = .ok (layoutOf (step s g).2))
    (tmpl s₀ : PyTree α σ) (h0 : layoutOf s₀ = ps.map Layout.sm3InitParam) (ht : layoutOf tmpl = ps.map Layout.sm3InitParam)
    (hwf : wf s₀ = true) (gs : List G) (k : Nat) :
    resume step tmpl s₀ gs k = .ok (run step s₀ gs) :=
  resume_of_layout_fixpoint layoutOf (Layout.sm3Step ps) (ps.map Layout.sm3InitParam)
    (Layout.sm3Step_init ps) skel hskel step hstep tmpl s₀ h0 ht hwf gs k

/-- Tearfree (Shampoo / Sketchy, every grafting and momentum option). -/
theorem tearfree_resume_eq_uninterrupted (c : Layout.TFCfg) (ps : List (List Nat)) (L : Layout.TFLayout) (hinit : Layout.tfInit c ps = .ok L)
    (layoutOf : PyTree α σ → Layout.TFLayout) (skel : PyTree Unit σ)
    (hskel : ∀ s, layoutOf s = L → skeleton s = skel)
    (step : PyTree α σ → G → U × PyTree α σ)
    (hstep : ∀ s g, layoutOf s = L → Layout.tfStep c (layoutOf s) = .ok (layoutOf (step s g).2))
    (tmpl s₀ : PyTree α σ) (h0 : layoutOf s₀ = L) (ht : layoutOf tmpl = L)
    (hwf : wf s₀ = true) (gs : List G) (k : Nat) :
    resume step tmpl s₀ gs k = .ok (run step s₀ gs) :=
  resume_of_layout_fixpoint layoutOf (Layout.tfStep c) L
    (Layout.tfStep_init c ps L hinit) skel hskel step hstep tmpl s₀ h0 ht hwf gs k

end layoutInstances

/-! ### the hypotheses are satisfiable: a quantized Shampoo-like state -/

/-- `ShampooState(count, stats=[ParameterStats(statistics=[QuantizedValue(…)], avg_grad=MaskedNode())])` -/
def exState (c q d b : Int) : PyTree Int String :=
  .node (.namedtuple "ShampooState")
    [("count", .leaf c),
     ("stats", PyTree.list
        [.node (.namedtuple "ParameterStats")
          [("statistics", PyTree.list
              [.node (.dataclass "QuantizedValue" [("quantized_dtype", "int16"), ("extract_diagonal", "True"),
                  ("shape", "[4, 4]")])
                [("quantized", .leaf q), ("diagonal", .leaf d), ("bucket_size", .leaf b)]]),
           ("avg_grad", .node (.namedtuple "MaskedNode") []),
           ("momentum", .none)]])]

example : wf (exState 3 1 2 5) = true := by decide
example : sameStatic (exState 0 0 0 0) (exState 3 1 2 5) := rfl
example : fromStateDict (exState 0 0 0 0) (toStateDict (exState 3 1 2 5)) = .ok (exState 3 1 2 5) :=
  restore_roundtrip (exState 0 0 0 0) (exState 3 1 2 5) (by decide) rfl
example : resume toyStep (exState 0 0 0 0) (exState 3 1 2 5) [1, -2, 4] 2
    = .ok (run toyStep (exState 3 1 2 5) [1, -2, 4]) :=
  toyStep_resume (exState 0 0 0 0) (exState 3 1 2 5) (by decide) rfl _ _
example : (run toyStep (exState 3 1 2 5) [1, -2]).1 = [37, 103] := by decide

/-- an SM3 state: `SM3State(count, stats={'w': ParameterStats([acc], QuantizedValue(...))})` -/
def exSM3 (c a m : Int) : PyTree Int String :=
  .node (.namedtuple "SM3State") [("count", .leaf c), ("stats", .node .dict [("w",
    .node (.namedtuple "ParameterStats") [("diagonal_statistics", PyTree.list [.leaf a]),
      ("diagonal_momentum", .node (.dataclass "QuantizedValue" [("quantized_dtype", "int8")]) [("quantized", .leaf m)])])])]

open Classical in
/-- the hypotheses of the SM3 instance are satisfiable: layout read off the skeleton, toy step -/
example (gs : List Int) (k : Nat) :
    resume toyStep (exSM3 0 0 0) (exSM3 3 1 2) gs k = .ok (run toyStep (exSM3 3 1 2) gs) := by
  have hL : [[2]].map Layout.sm3InitParam ≠ [] := by simp
  have key : ∀ s : PyTree Int String,
      (if skeleton s = skeleton (exSM3 0 0 0) then [[2]].map Layout.sm3InitParam else []) = [[2]].map Layout.sm3InitParam →
      skeleton s = skeleton (exSM3 0 0 0) := by
    intro s h
    by_cases hs : skeleton s = skeleton (exSM3 0 0 0)
    · exact hs
    · rw [if_neg hs] at h
      exact absurd h.symm hL
  refine sm3_resume_eq_uninterrupted [[2]]
    (fun s => if skeleton s = skeleton (exSM3 0 0 0) then [[2]].map Layout.sm3InitParam else [])
    (skeleton (exSM3 0 0 0)) key toyStep ?_ (exSM3 0 0 0) (exSM3 3 1 2) (if_pos rfl) (if_pos rfl) (by decide) gs k
  intro s g hs
  have h2 : skeleton (toyStep s g).2 = skeleton (exSM3 0 0 0) := (skeleton_mapLeaves _ s).trans (key s hs)
  rw [hs, Layout.sm3Step_init, if_pos h2]

end PrecondVerif.C14
