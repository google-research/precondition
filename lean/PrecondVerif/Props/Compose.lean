/-
Compose — theorems that span several per-property models, so that the framework says something about the optimizers as
a whole rather than about isolated pieces.  Nothing is re-modelled: `Model/Compose.lean` only instantiates the parameters
the per-property models leave open (root routine, gate, statistics update, batch position, kernels), and every proof is a
chain of the per-property theorems.  Lemma files: `Lemmas/Compose.lean` (a parameter and its slots, devices, tree step),
`ComposePad.lean` (padding invariance of C01's routines), `ComposeForms.lean` (certificates of the root routines, entry level),
`ComposeTF.lean` (Tearfree blocks), `ComposeQuant.lean`, `ComposeFD.lean`.  Namespaces carry the id of the check that audits
them (`lean_stage(extra_props=(…, "Compose"))` in c02, c03, c09, c13, c14, c15).

WHAT COMPOSES (Distributed Shampoo)
`ComposeProps.C03`, (1) below — the stored preconditioner of one slot.  C04's automaton (statistics interval, any refresh-interval
  function, `steps == 1` shortcut, `efficient_cond` carry) with C03's gate IS C03's slot machine
  (`schedule_step_is_slot_machine_step`, `…_run_…`).  For every history / schedule / time the stored value is the initial
  one or the routine's output for the statistics current at a refresh step, with an accepted (non-NaN, `< thr`) error and
  the routine's certificate: Newton — `|X^p · A_d − I_s| ≤ err` for the ridge actually used
  (`stored_preconditioner_is_identity_or_honest_root`, C01 `newton_error_honest`; zero on padding, symmetric; at ℚ);
  the `matrix_size == 1` branch (`…_onebyone_form`); eigh (`…_eigh_form`, `n·err/ridge`); any certified routine
  (`…_is_initial_or_certified_root`); the quantized triple — stored = `quantize X`, dequantized within half a bucket
  (`stored_quantized_is_initial_or_quantized_honest_root`, C11; `selectTriple` = the one select).  Good stays good.
`ComposeProps.C02`, (2) — one parameter = its slots `b·k + j` + C02's update half.  `Low = Spec` with gate ∘ root in place of
  C02's abstract root (`composed_low_refines_spec`), the slots' statistics are C02's flat list, every matrix the update of
  step `t` uses is the identity or an honest root of a refresh step `r ≤ t` (`r < t` sharded)
  (`update_uses_honest_roots`, `update_uses_honest_roots_dispatch` with the `1 × 1` branch as the code takes it,
  `update_uses_certified_roots`), and entry by
  entry the direction is the mode product of ITS block's slice with ITS block's preconditioners
  (`ds_update_entry_is_block_entry`, C06 tiling).
`ComposeProps.C13`, (3) — devices and the padded batch.  The tree-wide padded batch on `D` devices (pmap) or as pjit global
  arrays = the per-statistic single-device routine (`distributed_equals_single_device`, `sharded_…`), for C08's Newton and
  eigh models and — padding invariance of `InvRoot.newtonRoot` and `powerIteration` proved by simulation
  (`newton_root_padding_invariant_c01`) — for C01's routine with honesty (`distributed_c01_roots_honest`); reported errors,
  gate decisions and stored slots do not depend on `D` or the layout (`gate_decisions_independent_of_devices`); one whole
  step on a parameter TREE is the map of the per-leaf steps (`tree_step_is_map_of_param_steps`, `…_newton`,
  `tree_step_independent_of_devices`).
`ComposeProps.C09` — frequent-directions slots: `stored_fd_sketch_brackets_accepted_history` (C03's warm-start / reset
  slot machine × C09's guarded `_fd_update_root`: the stored sketch brackets the discounted covariance of exactly the
  ACCEPTED refresh gradients; restart at accepted reset steps).  Tearfree Sketchy under C04's cadence:
  `sketchy_run_brackets_refresh_covariance`.
`ComposeProps.C14` — resumption in sharded mode: `ds_sharded_resume_eq_uninterrupted` (C14 × C07's sharded layout fixpoint).
WHAT COMPOSES (Tearfree)
`ComposeProps.C15` — every entry of the update of a padded, blocked leaf is the entry computed from its block's own
  gradient slice and stored state (`tearfree_blocked_update_is_per_block_update`, C06 `deblockify_pointwise`), the slice
  is contiguous, and padding never changes real entries (`tearfree_padding_never_changes_real_entries`, array-level
  adapter of C15's `zero_padding_invisible`).

ADAPTERS.  C02's matrices are `Nat → Nat → α`, C01's `Fin n → Fin n → α` (`toMx` / `ofMx`), C08's tabulated `A2` (`ofA2`),
C15's block arrays vs Mathlib matrices (`rd_matToArr`); C01's errors are field elements, C03's are `XF` (report map `rep`,
`XF.fin` at ℚ); C08's and C01's Newton transcriptions are not identified with each other: each has its own padding invariance.

WHAT DOES NOT COMPOSE / HYPOTHESES THAT STAY.  LOBPCG (`lobpcg_topk_precondition`): its top-k pairs are unconstrained inputs
of C01's model and C01 proves nothing about the deflated problem's relation to the original one, so there is no
certificate to carry through the gate; not routed.  The slot-level eigh form with C01's `eighRoot` assumes no padding; eigh
WITH the padded batch is covered on C08's eigh model under `KernelMeetsSpec` alone
(`distributed_equals_single_device_eigh_unconditional`, `tree_step_is_map_of_param_steps_eigh`).  External kernels stay
hypotheses wherever the per-property theorems have them
(`SvdSpec`, `EighSpec` / `EighKernelOK`, scalar roots); `MaxEvPadOK` (discharged for power iteration and the constant);
the FD bracket includes the per-step ridge shift `_fd_update_root` adds (as in C09).  Floating-point rounding, XLA batch
determinism and finiteness in IEEE arithmetic remain oracle-only, as in the per-property checks.
-/
import PrecondVerif.Lemmas.ComposeTF
import PrecondVerif.Lemmas.ComposeQuant
import PrecondVerif.Lemmas.ComposeFD
import PrecondVerif.Props.C02
import PrecondVerif.Props.C03
import PrecondVerif.Props.C04
import PrecondVerif.Props.C14

-- the theorems of a section share one `variable` line; not every one uses every class
set_option linter.unusedSectionVars false

/-! ## (1) stored preconditioners: C03 × C04 × C01 -/

namespace PrecondVerif.ComposeProps.C03
open PrecondVerif.InvRoot PrecondVerif.Gate PrecondVerif.Schedule PrecondVerif.Compose

section Generic
variable {σ π γ φ δ m α : Type} [Add α] [Mul α] [Sub α] [OfNat α 0] [OfNat α 1]

/-- C04's gate, instantiated with C03's `_skip`, is C03's `select`; its `efficient_cond` carry is rejected. -/
theorem schedule_gate_is_c03_select (thr : XF) (hthr : thr.isNaN = false) (statsUpd : σ → γ → σ)
    (root : σ → π → φ → π × XF) (junk : σ → π) (graftUpd : δ → γ → Nat → δ × α × α)
    (shampooUpd : m → π → γ → Nat → m × α × α) (finish : α → α → Nat → α) (old : π) (cand : π × XF) :
    let K := gateKernels thr statsUpd root junk graftUpd shampooUpd finish
    Schedule.gate K old cand = select cand.2 thr cand.1 old ∧ K.bad K.failMetrics = true :=
  ⟨gate_eq_select thr statsUpd root junk graftUpd shampooUpd finish old cand,
    gateKernels_bad_fail hthr statsUpd root junk graftUpd shampooUpd finish⟩

/-- One `update` call of C04's automaton IS one step of C03's slot machine, fed with the root result for the statistics
after this step's statistics update — for every refresh-interval function (fixed or learning-rate scheduled). -/
theorem schedule_step_is_slot_machine_step (thr : XF) (statsUpd : σ → γ → σ) (root : σ → π → φ → π × XF)
    (junk : σ → π) (graftUpd : δ → γ → Nat → δ × α × α) (shampooUpd : m → π → γ → Nat → m × α × α)
    (finish : α → α → Nat → α) (cfg : DSCfg) (s : DSState σ π XF δ m) (i : DSInp γ φ) :
    let K := gateKernels thr statsUpd root junk graftUpd shampooUpd finish
    slotOf (dsStep K cfg s i).1 =
      slotStep select thr (cfg.interval s.count) s.count (slotOf s)
        (slotInput root junk (dsStats' K cfg s i.grad) i.fault s.precond) := by
  intro K
  rw [slotStep_eq (fun _ _ _ _ => rfl), slotOf, dsStep_fst_precond, dsStep_metrics, dsCandidate_eq, dsStep_fst_stats]
  by_cases h : s.count % cfg.interval s.count = 0
  · rw [if_pos h, if_pos h, if_pos (performStep_iff.mpr h)]
    rfl
  · rw [if_neg h, if_neg h, if_neg (mt performStep_iff.mp h)]
    rfl

/-- With a fixed interval the whole (preconditioner, error) trajectory of C04's automaton is a run of C03's slot
machine (`Gate.slotRun`), so every C03 theorem about `slotRun` (`slots_inv`, `slots_finite`) applies to it. -/
theorem schedule_run_is_slot_machine_run (thr : XF) (statsUpd : σ → γ → σ) (root : σ → π → φ → π × XF)
    (junk : σ → π) (graftUpd : δ → γ → Nat → δ × α × α) (shampooUpd : m → π → γ → Nat → m × α × α)
    (finish : α → α → Nat → α) (cfg : DSCfg) (itv : Nat) (hitv : cfg.interval = fun _ => itv)
    (is : List (DSInp γ φ)) (s0 : DSState σ π XF δ m) :
    let K := gateKernels thr statsUpd root junk graftUpd shampooUpd finish
    slotOf (run (dsStep K cfg) s0 is) =
      slotRun select thr itv s0.count (slotOf s0) (slotInputs K cfg root junk s0 is) := by
  intro K
  induction is generalizing s0 with
  | nil => rfl
  | cons i is ih =>
    rw [run_cons, ih, slotInputs, slotRun, schedule_step_is_slot_machine_step, hitv,
      PrecondVerif.C04.count_advances_step]

/-- **Generic form of (1).**  Any root routine (its results are adversarial), any statistics update, any schedule, any
history: the preconditioner stored after `k` updates is the initial one, or the candidate the routine returned at a
refresh step `r < k` (C04's `perform` predicate) for the statistics AFTER that step's statistics update and the
preconditioner stored then, and its reported error is non-NaN and strictly below the threshold. -/
theorem stored_preconditioner_is_initial_or_accepted_root (thr : XF) (hthr : thr.isNaN = false)
    (statsUpd : σ → γ → σ) (root : σ → π → φ → π × XF) (junk : σ → π) (graftUpd : δ → γ → Nat → δ × α × α)
    (shampooUpd : m → π → γ → Nat → m × α × α) (finish : α → α → Nat → α) (cfg : DSCfg)
    (s0 : DSState σ π XF δ m) (is : List (DSInp γ φ)) (k : Nat) (hk : k ≤ is.length) :
    let K := gateKernels thr statsUpd root junk graftUpd shampooUpd finish
    let S := stateAt (dsStep K cfg) s0 is
    (S k).precond = s0.precond ∨
      ∃ r, ∃ hr : r < k, (s0.count + r) % cfg.interval (s0.count + r) = 0 ∧
        (S k).precond = (root (S (r + 1)).stats (S r).precond (is[r]'(by omega)).fault).1 ∧
        (root (S (r + 1)).stats (S r).precond (is[r]'(by omega)).fault).2.isNaN = false ∧
        (root (S (r + 1)).stats (S r).precond (is[r]'(by omega)).fault).2.lt thr = true := by
  intro K S
  refine initial_or_set (dsStep K cfg) (·.precond) s0 is
    (fun r hr x => (s0.count + r) % cfg.interval (s0.count + r) = 0 ∧
      x = (root (S (r + 1)).stats (S r).precond is[r].fault).1 ∧
      (root (S (r + 1)).stats (S r).precond is[r].fault).2.isNaN = false ∧
      (root (S (r + 1)).stats (S r).precond is[r].fault).2.lt thr = true) (fun r hr => ?_) k hk
  by_cases hm : (s0.count + r) % cfg.interval (s0.count + r) = 0
  · have href := (PrecondVerif.C04.refresh_uses_current_stats K cfg s0 is r hr hm).1
    rcases PrecondVerif.C03.gate_spec (root (S (r + 1)).stats (S r).precond is[r].fault).2 thr hthr
        (root (S (r + 1)).stats (S r).precond is[r].fault).1 (S r).precond with h | ⟨h, h2, h3⟩
    · exact Or.inl (href.trans h)
    · exact Or.inr ⟨hm, href.trans h, h2, h3⟩
  · exact Or.inl (PrecondVerif.C04.precond_change_only_on_multiples K cfg
      (gateKernels_bad_fail hthr statsUpd root junk graftUpd shampooUpd finish) s0 is r hr hm)

/-- **Good stays good** (C03's `slots_finite_warm_start` through C04's schedule; `Good` = "finite" is the instance the
property names): if the initial preconditioner is good and the routine maps a good stored value to a good candidate
whenever its error passes the gate, every stored preconditioner is good — whatever the rejected candidates were. -/
theorem stored_preconditioner_stays_good (thr : XF) (hthr : thr.isNaN = false) (statsUpd : σ → γ → σ)
    (root : σ → π → φ → π × XF) (junk : σ → π) (graftUpd : δ → γ → Nat → δ × α × α)
    (shampooUpd : m → π → γ → Nat → m × α × α) (finish : α → α → Nat → α) (cfg : DSCfg)
    (s0 : DSState σ π XF δ m) (is : List (DSInp γ φ)) (Good : π → Prop) (h0 : Good s0.precond)
    (hroot : ∀ st prev f, Good prev → (root st prev f).2.isNaN = false → (root st prev f).2.lt thr = true →
      Good (root st prev f).1) (k : Nat) (hk : k ≤ is.length) :
    Good (stateAt (dsStep (gateKernels thr statsUpd root junk graftUpd shampooUpd finish) cfg) s0 is k).precond := by
  induction k using Nat.strong_induction_on with
  | _ k ih =>
    rcases stored_preconditioner_is_initial_or_accepted_root thr hthr statsUpd root junk graftUpd shampooUpd finish
      cfg s0 is k hk with h | ⟨r, hr, _, h2, h3, h4⟩
    · rw [h]; exact h0
    · rw [h2]; exact hroot _ _ _ (ih r hr (by omega)) h3 h4

end Generic

section Newton
variable {α : Type} [Field α] [LinearOrder α] [IsStrictOrderedRing α] {n : Nat}
variable {γ δ m β : Type} [Add β] [Mul β] [Sub β] [OfNat β 0] [OfNat β 1]

/-- **(1) `stored_preconditioner_is_identity_or_honest_root`.**  C03's gate and C04's schedule around C01's Newton
routine (`newtonSlotRoot`: `matrix_inverse_pth_root` with padding start `s ≠ 0` on `n × n` statistics).  For every
statistics update, history, statistics interval, refresh-interval function and time `k`: the stored preconditioner is
the initial one (the identity in the optimizer), or there is a refresh step `r < k` such that, with `A` the statistics
after step `r`'s statistics update and `o` the routine's output on `A`: the stored matrix is `o.x`, the reported error
is non-NaN and below the threshold, `total_retries ≥ 1`, and `|o.x^p · A_d − I_s| ≤ o.err` entrywise for
`A_d = mask(A) + ridge_epsilon·max(max_ev, _EPSILON)·10^(retries−1)·I_s` — the ridge actually used.
Constants and scalar kernels as in C01 (`NewtonOK`: `1 < max_error_ratio`, `0 ≤ error_tolerance`, `1 ≤ num_tries`,
`rootp z ^ p = z`, `sqrt ≥ 0`, exact `cast32`). -/
theorem stored_preconditioner_is_identity_or_honest_root (N : NewtonCfg α) (hN : NewtonOK N) (rep : α → XF)
    (s : Nat) (hs : s ≠ 0) (thr : XF) (hthr : thr.isNaN = false) (statsUpd : Mat α n n → γ → Mat α n n)
    (graftUpd : δ → γ → Nat → δ × β × β) (shampooUpd : m → Mat α n n → γ → Nat → m × β × β)
    (finish : β → β → Nat → β) (cfg : DSCfg) (s0 : DSState (Mat α n n) (Mat α n n) XF δ m)
    (is : List (DSInp γ Unit)) (k : Nat) (hk : k ≤ is.length) :
    let K := gateKernels thr statsUpd (newtonSlotRoot N rep s) id graftUpd shampooUpd finish
    let S := stateAt (dsStep K cfg) s0 is
    (S k).precond = s0.precond ∨
      ∃ r, r < k ∧ (s0.count + r) % cfg.interval (s0.count + r) = 0 ∧
        (S k).precond = (newtonOut N s (S (r + 1)).stats).x ∧
        (rep (newtonOut N s (S (r + 1)).stats).err).isNaN = false ∧
        (rep (newtonOut N s (S (r + 1)).stats).err).lt thr = true ∧
        1 ≤ (newtonOut N s (S (r + 1)).stats).retries ∧
        ∀ i j, |((Matrix.of (newtonOut N s (S (r + 1)).stats).x) ^ N.p *
            dampedM s (S (r + 1)).stats
              (newtonRidge N s (S (r + 1)).stats * 10 ^ ((newtonOut N s (S (r + 1)).stats).retries - 1))
            - Es α n s) i j| ≤ (newtonOut N s (S (r + 1)).stats).err := by
  intro K S
  rcases stored_preconditioner_is_initial_or_accepted_root thr hthr statsUpd (newtonSlotRoot N rep s) id graftUpd
    shampooUpd finish cfg s0 is k hk with h | ⟨r, hr, h1, h2, h3, h4⟩
  · exact Or.inl h
  · exact Or.inr ⟨r, hr, h1, h2, h3, h4, newtonOut_honest N hN s hs (S (r + 1)).stats⟩

/-- Every stored preconditioner is exactly zero on padding rows and columns (C01's `newton_padding_zero` carried through
the gate and the schedule), provided the initial one is — no hypothesis on the statistics. -/
theorem stored_preconditioner_zero_on_padding (N : NewtonCfg α) (hN : NewtonOK N) (rep : α → XF) (s : Nat)
    (thr : XF) (hthr : thr.isNaN = false) (statsUpd : Mat α n n → γ → Mat α n n)
    (graftUpd : δ → γ → Nat → δ × β × β) (shampooUpd : m → Mat α n n → γ → Nat → m × β × β)
    (finish : β → β → Nat → β) (cfg : DSCfg) (s0 : DSState (Mat α n n) (Mat α n n) XF δ m)
    (is : List (DSInp γ Unit)) (k : Nat) (hk : k ≤ is.length)
    (h0 : ∀ i j : Fin n, s ≤ i.val ∨ s ≤ j.val → s0.precond i j = 0) :
    ∀ i j : Fin n, s ≤ i.val ∨ s ≤ j.val →
      (stateAt (dsStep (gateKernels thr statsUpd (newtonSlotRoot N rep s) id graftUpd shampooUpd finish) cfg)
        s0 is k).precond i j = 0 :=
  stored_preconditioner_stays_good thr hthr statsUpd (newtonSlotRoot N rep s) id graftUpd shampooUpd finish cfg s0 is
    (fun X => ∀ i j : Fin n, s ≤ i.val ∨ s ≤ j.val → X i j = 0) h0
    (fun st _ _ _ _ _ i j hij =>
      C01.newton_padding_zero s N.c N.p N.pα N.alpha N.sqrt N.rootp N.cast32 N.thousand N.epsFloor N.eps
        (N.maxEvOf n s st) st hN.htol hN.hnt hN.hp hN.hroot hN.hsqrt i j hij) k hk

/-- Every stored preconditioner is symmetric (C01's `newton_symmetric`), provided the initial one and the initial
statistics are and the statistics update preserves symmetry (`w1·L + w2·G Gᵀ` does). -/
theorem stored_preconditioner_symmetric (N : NewtonCfg α) (hN : NewtonOK N) (rep : α → XF) (s : Nat) (hs : s ≠ 0)
    (thr : XF) (hthr : thr.isNaN = false) (statsUpd : Mat α n n → γ → Mat α n n)
    (graftUpd : δ → γ → Nat → δ × β × β) (shampooUpd : m → Mat α n n → γ → Nat → m × β × β)
    (finish : β → β → Nat → β) (cfg : DSCfg) (s0 : DSState (Mat α n n) (Mat α n n) XF δ m)
    (is : List (DSInp γ Unit)) (k : Nat) (hk : k ≤ is.length)
    (h0 : ∀ i j, s0.precond i j = s0.precond j i) (hs0 : ∀ i j, s0.stats i j = s0.stats j i)
    (hupd : ∀ (A : Mat α n n) g, (∀ i j, A i j = A j i) → ∀ i j, statsUpd A g i j = statsUpd A g j i) :
    ∀ i j, (stateAt (dsStep (gateKernels thr statsUpd (newtonSlotRoot N rep s) id graftUpd shampooUpd finish) cfg)
        s0 is k).precond i j =
      (stateAt (dsStep (gateKernels thr statsUpd (newtonSlotRoot N rep s) id graftUpd shampooUpd finish) cfg)
        s0 is k).precond j i := by
  intro i j
  rcases stored_preconditioner_is_identity_or_honest_root N hN rep s hs thr hthr statsUpd graftUpd shampooUpd finish
    cfg s0 is k hk with h | ⟨r, hr, _, h2, _⟩
  · rw [h]; exact h0 i j
  · rw [h2]
    exact C01.newton_symmetric s N.c N.p N.pα N.alpha N.sqrt N.rootp N.cast32 N.thousand N.epsFloor N.eps _ _
      (stats_invariant _ cfg s0 is (fun A => ∀ i j, A i j = A j i) hs0 (fun st g h => hupd st g h) (r + 1) (by omega))
      hN.htol hN.hnt hN.hp hN.hroot hN.hsqrt i j

end Newton

/-! ### (1) for the other root routines: any certified routine, the `1 × 1` branch, the eigh root -/

section Forms
variable {α : Type} [Field α] [LinearOrder α] [IsStrictOrderedRing α] {n : Nat}
variable {γ δ m β : Type} [Add β] [Mul β] [Sub β] [OfNat β 0] [OfNat β 1]

/-- **(1) for an arbitrary routine with a certificate.**  If every output `(x, e)` of the root routine on statistics
satisfying an invariant `I` of the statistics update carries `Cert stats x e`, then every stored preconditioner is the
initial one or carries the certificate for the statistics after the statistics update of a refresh step `r < k`, with
an error `e` that is not NaN and below the threshold.  The Newton, `1 × 1` and eigh forms are instances. -/
theorem stored_preconditioner_is_initial_or_certified_root {σ π φ : Type} (thr : XF) (hthr : thr.isNaN = false)
    (statsUpd : σ → γ → σ) (root : σ → π → φ → π × XF) (junk : σ → π) (graftUpd : δ → γ → Nat → δ × β × β)
    (shampooUpd : m → π → γ → Nat → m × β × β) (finish : β → β → Nat → β) (Cert : σ → π → XF → Prop)
    (I : σ → Prop) (hcert : ∀ st prev f, I st → Cert st (root st prev f).1 (root st prev f).2) (cfg : DSCfg)
    (s0 : DSState σ π XF δ m) (is : List (DSInp γ φ)) (h0 : I s0.stats) (hupd : ∀ st g, I st → I (statsUpd st g))
    (k : Nat) (hk : k ≤ is.length) :
    let K := gateKernels thr statsUpd root junk graftUpd shampooUpd finish
    let S := stateAt (dsStep K cfg) s0 is
    (S k).precond = s0.precond ∨
      ∃ r e, r < k ∧ (s0.count + r) % cfg.interval (s0.count + r) = 0 ∧ e.isNaN = false ∧ e.lt thr = true ∧
        I (S (r + 1)).stats ∧ Cert (S (r + 1)).stats (S k).precond e := by
  intro K S
  rcases stored_preconditioner_is_initial_or_accepted_root thr hthr statsUpd root junk graftUpd shampooUpd finish
    cfg s0 is k hk with h | ⟨r, hr, h1, h2, h3, h4⟩
  · exact Or.inl h
  · have hI := stats_invariant K cfg s0 is I h0 hupd (r + 1) (by omega)
    refine Or.inr ⟨r, _, hr, h1, h3, h4, hI, ?_⟩
    rw [h2]
    exact hcert _ _ _ hI

/-- **(1), `1 × 1` form** (`matrix_size == 1`: C01's `oneByOne`, which the code takes instead of the Newton iteration).
Slot with a scalar statistic `a ≥ 0` (kept non-negative by the statistics update), `ridge_epsilon > 0`, `_EPSILON > 0`,
kernel `invroot x ^ p · x = 1` for `x > 0`: the stored scalar is the initial one, or for a refresh step `r < k` and the
statistic `a` after its update: `d = ridge_epsilon·max(max_ev, _EPSILON) > 0`, stored `= invroot (a + d)`,
`stored^p · (a + d) = 1`, and the reported error is `rep 0` — accepted by the gate. -/
theorem stored_preconditioner_onebyone_form (N : NewtonCfg α) (rep : α → XF) (invroot : α → α) (he : 0 < N.eps)
    (hf : 0 < N.epsFloor) (hinv : ∀ x, 0 < x → invroot x ^ N.p * x = 1) (hcast : ∀ x, N.cast32 x = x) (thr : XF)
    (hthr : thr.isNaN = false) (statsUpd : α → γ → α) (graftUpd : δ → γ → Nat → δ × β × β)
    (shampooUpd : m → α → γ → Nat → m × β × β) (finish : β → β → Nat → β) (cfg : DSCfg)
    (s0 : DSState α α XF δ m) (is : List (DSInp γ Unit)) (h0 : 0 ≤ s0.stats)
    (hupd : ∀ a g, 0 ≤ a → 0 ≤ statsUpd a g) (k : Nat) (hk : k ≤ is.length) :
    let K := gateKernels thr statsUpd (scalarSlotRoot N rep invroot) id graftUpd shampooUpd finish
    let S := stateAt (dsStep K cfg) s0 is
    (S k).precond = s0.precond ∨
      ∃ r e, r < k ∧ (s0.count + r) % cfg.interval (s0.count + r) = 0 ∧ e.isNaN = false ∧ e.lt thr = true ∧
        0 ≤ (S (r + 1)).stats ∧ ScalarHonest N rep invroot (S (r + 1)).stats (S k).precond e :=
  stored_preconditioner_is_initial_or_certified_root thr hthr statsUpd (scalarSlotRoot N rep invroot) id graftUpd
    shampooUpd finish (ScalarHonest N rep invroot) (fun a => 0 ≤ a)
    (fun a prev f ha => scalarSlotRoot_cert N rep invroot he hf hinv hcast a prev f ha) cfg s0 is h0 hupd k hk

/-- **(1), eigh form** (`matrix_inverse_pth_root_eigh`: C01's `eighRoot` on the output of an external eigen-solver for
the regularised statistic; no padding, `n ≤ s`).  Under C01's hypotheses on the solver's output (`EighKernelOK`: `U`
orthogonal, computed eigenvalues `≥ ridge > 0`) and the scalar kernels: the stored preconditioner is the initial one, or
for a refresh step `r < k`, the statistics `A` after its update and the error `err` the routine reported (`e = rep err`,
not NaN, below the threshold): `|X^p · (A + ridge·I) − 1| ≤ n · err / ridge` entrywise (`EighHonest`) — the slack
proportional to the regularised condition number of C01's `eigh_error_honest`. -/
theorem stored_preconditioner_eigh_form (kernel : (n : Nat) → Mat α n n → Mat α n n × Vec α n)
    (ridgeFn : (n : Nat) → Mat α n n → α) (sqrt invroot : α → α) (rep : α → XF) (p s : Nat) (hs : s ≠ 0) (hns : n ≤ s)
    (hsqrt : ∀ x, 0 ≤ x → sqrt x * sqrt x = x) (hinv : ∀ x, 0 < x → 0 ≤ invroot x ∧ invroot x ^ p * x = 1)
    (hker : ∀ A : Mat α n n, EighKernelOK kernel ridgeFn s A) (thr : XF) (hthr : thr.isNaN = false)
    (statsUpd : Mat α n n → γ → Mat α n n) (graftUpd : δ → γ → Nat → δ × β × β)
    (shampooUpd : m → Mat α n n → γ → Nat → m × β × β) (finish : β → β → Nat → β) (cfg : DSCfg)
    (s0 : DSState (Mat α n n) (Mat α n n) XF δ m) (is : List (DSInp γ Unit)) (k : Nat) (hk : k ≤ is.length) :
    let K := gateKernels thr statsUpd (eighSlotRoot kernel ridgeFn sqrt invroot rep s) id graftUpd shampooUpd finish
    let S := stateAt (dsStep K cfg) s0 is
    (S k).precond = s0.precond ∨
      ∃ r e, r < k ∧ (s0.count + r) % cfg.interval (s0.count + r) = 0 ∧ e.isNaN = false ∧ e.lt thr = true ∧
        EighHonest ridgeFn rep p s (S (r + 1)).stats (S k).precond e := by
  intro K S
  exact (stored_preconditioner_is_initial_or_certified_root thr hthr statsUpd
    (eighSlotRoot kernel ridgeFn sqrt invroot rep s) id graftUpd shampooUpd finish (EighHonest ridgeFn rep p s) (fun _ => True)
    (fun A prev f _ => eighSlotRoot_cert kernel ridgeFn sqrt invroot rep p s hs hns hsqrt hinv A prev f (hker A))
    cfg s0 is trivial (fun _ _ _ => trivial) k hk).imp_right
    fun ⟨r, e, h1, h2, h3, h4, _, h6⟩ => ⟨r, e, h1, h2, h3, h4, h6⟩

end Forms

/-! ### (1), quantized form: C03 `selectTriple` × C11 quantize / dequantize × C01 Newton -/

section QuantizedForm
open PrecondVerif.Quant PrecondVerif.DShampoo
variable {α : Type} [Field α] [LinearOrder α] [IsStrictOrderedRing α] [HasFloor α] [LawfulFloor α] [Inhabited α]
variable {γ δ m β : Type} [Add β] [Mul β] [Sub β] [OfNat β 0] [OfNat β 1]

/-- **(1), quantized form.**  Slot whose stored value is C11's quantized triple `QV` (payload, diagonal, bucket sizes),
root routine quantize ∘ Newton (`quantNewtonSlotRoot`, `Nq ≥ 1` buckets per column, statistic size `d ≠ 0`), C03's gate,
C04's schedule.  The stored triple is the initial one, or for a refresh step `r < k` and the statistics `A` after its
update there is a matrix `X` with: `X` is the Newton output on `A`, honest (`NewtonCert`: `e = rep err`, `retries ≥ 1`,
`|X^p · A_d − I| ≤ err`), `e` not NaN and below the threshold; the stored triple IS `quantize X`; and dequantized it is
within half a bucket of `X` in every column (`C11.roundtrip_half_bucket`). -/
theorem stored_quantized_is_initial_or_quantized_honest_root (N : NewtonCfg α) (hN : NewtonOK N) (rep : α → XF)
    (Nq : Nat) (hNq : 1 ≤ Nq) (ed : Bool) (d : Nat) (hd : d ≠ 0) (thr : XF) (hthr : thr.isNaN = false)
    (statsUpd : Mx α → γ → Mx α) (junk : Mx α → QV α) (graftUpd : δ → γ → Nat → δ × β × β)
    (shampooUpd : m → QV α → γ → Nat → m × β × β) (finish : β → β → Nat → β) (cfg : DSCfg)
    (s0 : DSState (Mx α) (QV α) XF δ m) (is : List (DSInp γ Unit)) (k : Nat) (hk : k ≤ is.length) :
    let K := gateKernels thr statsUpd (quantNewtonSlotRoot N rep Nq ed d) junk graftUpd shampooUpd finish
    let S := stateAt (dsStep K cfg) s0 is
    (S k).precond = s0.precond ∨
      ∃ r e, r < k ∧ (s0.count + r) % cfg.interval (s0.count + r) = 0 ∧ e.isNaN = false ∧ e.lt thr = true ∧
        QuantCert N rep Nq ed d (S (r + 1)).stats (S k).precond e := by
  intro K S
  exact (stored_preconditioner_is_initial_or_certified_root thr hthr statsUpd (quantNewtonSlotRoot N rep Nq ed d) junk
    graftUpd shampooUpd finish (QuantCert N rep Nq ed d) (fun _ => True)
    (fun L prev f _ => quantNewtonSlotRoot_cert N hN rep Nq hNq ed d hd L prev f) cfg s0 is trivial
    (fun _ _ _ => trivial) k hk).imp_right
    fun ⟨r, e, h1, h2, h3, h4, _, h6⟩ => ⟨r, e, h1, h2, h3, h4, h6⟩

/-- the select the automaton applies to the stored `QV` is, component by component, the three parallel selects of
`_pmap_quantized_compute_preconditioners` (C03 `quantized_triple_consistent`): the stored triple is never a mixture -/
theorem quantized_slot_select_is_select_triple (err thr : XF) (new old : QV α) :
    selectTriple err thr (new.q, new.diag, new.bucket) (old.q, old.diag, old.bucket) =
      ((select err thr new old).q, (select err thr new old).diag, (select err thr new old).bucket) := by
  rw [PrecondVerif.C03.quantized_triple_consistent]
  unfold select
  split <;> rfl

end QuantizedForm

/-- (1) at ℚ, the scalar type the exact driver runs: errors are reported as `XF.fin`, the threshold is a rational `τ`;
the accepted error is below `τ` as a rational number. -/
theorem stored_preconditioner_honest_rat {n : Nat} {γ : Type} (N : NewtonCfg ℚ) (hN : NewtonOK N) (s : Nat)
    (hs : s ≠ 0) (τ : ℚ) (statsUpd : Mat ℚ n n → γ → Mat ℚ n n) (cfg : DSCfg)
    (s0 : DSState (Mat ℚ n n) (Mat ℚ n n) XF Unit Unit) (is : List (DSInp γ Unit)) (k : Nat) (hk : k ≤ is.length) :
    let K : DSKernels (Mat ℚ n n) (Mat ℚ n n) XF γ Unit Unit Unit Nat :=
      gateKernels (XF.fin τ) statsUpd (newtonSlotRoot N XF.fin s) id (fun _ _ _ => ((), 0, 0))
        (fun _ _ _ _ => ((), 0, 0)) (fun a _ _ => a)
    let S := stateAt (dsStep K cfg) s0 is
    (S k).precond = s0.precond ∨
      ∃ r, r < k ∧ (s0.count + r) % cfg.interval (s0.count + r) = 0 ∧
        (S k).precond = (newtonOut N s (S (r + 1)).stats).x ∧ (newtonOut N s (S (r + 1)).stats).err < τ ∧
        ∀ i j, |((Matrix.of (newtonOut N s (S (r + 1)).stats).x) ^ N.p *
            dampedM s (S (r + 1)).stats
              (newtonRidge N s (S (r + 1)).stats * 10 ^ ((newtonOut N s (S (r + 1)).stats).retries - 1))
            - Es ℚ n s) i j| ≤ (newtonOut N s (S (r + 1)).stats).err := by
  intro K S
  rcases stored_preconditioner_is_identity_or_honest_root N hN XF.fin s hs (XF.fin τ) rfl statsUpd
    (fun _ _ _ => ((), (0 : Nat), (0 : Nat))) (fun _ _ _ _ => ((), (0 : Nat), (0 : Nat))) (fun a _ _ => a) cfg s0 is k hk
    with h | ⟨r, hr, h1, h2, _, h4, _, h6⟩
  · exact Or.inl h
  · exact Or.inr ⟨r, hr, h1, h2, (xf_fin_lt _ _).mp h4, h6⟩

/-- the hypotheses on the Newton constants are satisfiable (ℚ, `p = 1`, the constants of the source) -/
example : ∃ N : NewtonCfg ℚ, NewtonOK N :=
  ⟨{ c := { numIters := 100, tol := 1 / 1000000, rmax := 6 / 5, retryThr := 1 / 20, numTries := 6 },
     p := 1, pα := 1, alpha := -1, sqrt := fun _ => 3, rootp := id, cast32 := id, thousand := 1000,
     epsFloor := 1 / 1000000, eps := 1 / 1000000, maxEvOf := fun _ _ _ => 1 },
   ⟨by norm_num, by norm_num, by norm_num, by norm_num, fun z _ => by simp, fun _ => by norm_num, fun _ => rfl⟩⟩

/-- both branches of (1) occur in C04's token instance under C03's gate: with interval 2 the root accepted at step 0 is
still stored after 2 updates, a rejected one (NaN error at step 0) leaves the initial value -/
example :
    let cfg : DSCfg := { si := 1, interval := fun _ => 2, start := 0, sharded := false }
    let K (e : XF) : DSKernels Nat Nat XF Nat Unit Unit Unit Nat :=
      gateKernels (XF.fin (1 / 10)) (fun s g => s + g) (fun s _ _ => (100 + s, e)) id (fun _ _ _ => ((), 0, 0))
        (fun _ _ _ _ => ((), 0, 0)) (fun a _ _ => a)
    let s0 : DSState Nat Nat XF Unit Unit := ⟨0, 0, 7, XF.fin 0, (), ()⟩
    (stateAt (dsStep (K (XF.fin (1 / 100))) cfg) s0 [⟨5, ()⟩, ⟨6, ()⟩] 2).precond = 105 ∧
      (stateAt (dsStep (K XF.nan) cfg) s0 [⟨5, ()⟩, ⟨6, ()⟩] 2).precond = 7 := by
  decide +kernel

end PrecondVerif.ComposeProps.C03

/-! ## (2) the update: C02 × (1) -/

namespace PrecondVerif.ComposeProps.C02
open PrecondVerif.InvRoot PrecondVerif.Gate PrecondVerif.Schedule PrecondVerif.DShampoo PrecondVerif.Shapes
open PrecondVerif.Graft PrecondVerif.Compose

variable {α : Type} [Field α] [LinearOrder α] [IsStrictOrderedRing α] [Inhabited α]

/-- The statistics held by the slot automata of a parameter, collected in slot order, ARE C02's flat statistics list
(`Low`, the running-index loop of `updated_statistics_from_grad`) and the documented family (`Spec`): the state that
(1) speaks about is the state C02 speaks about.  Hypotheses: all slots carry the parameter's step counter, and there
is one slot per (block, preconditioned axis). -/
theorem composed_statistics_are_flat_list (thr : XF) (N : NewtonCfg α) (rep : α → XF) (G : Geom) (w1 w2 : α)
    (dims : Nat → Nat) (cfg : DSCfg) (slots : List (SlotState α)) (g : List α) (step : Nat)
    (hc : ∀ sl ∈ slots, sl.count = step) (hlen : slots.length = (G.blocks g).length * G.pdims.length) :
    (slotsStep (slotKernels thr N rep G w1 w2 dims) cfg slots g).map (·.stats) =
        lowStats G w1 w2 cfg.si step (slots.map (·.stats)) g ∧
      (slotsStep (slotKernels thr N rep G w1 w2 dims) cfg slots g).map (·.stats) =
        specStats G w1 w2 cfg.si step (slots.map (·.stats)) g := by
  have h := slotsStep_stats thr N rep G w1 w2 dims cfg slots g step hc hlen
  exact ⟨by rw [h, PrecondVerif.C02.stats_flat_list_eq_spec], h⟩

/-- The counter hypothesis of `composed_statistics_are_flat_list` holds along every run that starts synchronised, and
the number of slots never changes. -/
theorem composed_counters_in_sync
    (upd : Nat → List α → List α → PState α → List (Mx α) → List (Mx α) → Option (TOut α)) (mk : SlotK α)
    (cfg : DSCfg) (hist : List (List α × List α)) (s0 : ParamState α)
    (h0 : ∀ sl ∈ s0.slots, sl.count = s0.count) :
    (∀ sl ∈ (run (paramStepWith upd mk cfg) s0 hist).slots,
        sl.count = (run (paramStepWith upd mk cfg) s0 hist).count) ∧
      (run (paramStepWith upd mk cfg) s0 hist).count = s0.count + hist.length ∧
      (run (paramStepWith upd mk cfg) s0 hist).slots.length = s0.slots.length := by
  induction hist generalizing s0 with
  | nil => exact ⟨h0, rfl, rfl⟩
  | cons x hist ih =>
    rw [run_cons]
    obtain ⟨a, b, c⟩ := ih (paramStepWith upd mk cfg s0 x).1 fun sl hsl => by
      rw [paramStepWith_slots] at hsl
      obtain ⟨i, hi, rfl⟩ := List.mem_iff_getElem.mp hsl
      rw [slotsStep_getElem, PrecondVerif.C04.count_advances_step, paramStepWith_count, h0 _ (List.getElem_mem _)]
    refine ⟨a, ?_, ?_⟩
    · rw [b, paramStepWith_count, List.length_cons]
      omega
    · rw [c, paramStepWith_slots, slotsStep_length]

/-- **`Low` refines `Spec` with gate ∘ Newton as the root** (C02's abstract root replaced by the composed slot
automata): one `update` call of the code-shaped parameter model — slots refreshed through C04's schedule, C03's gate and
C01's Newton routine (or any other slot kernels `mk`), update half by the rotate-and-`tensordot` / arithmetic-selection
code shape — equals the documented one, new state AND emitted update. -/
theorem composed_low_refines_spec (sqrt : α → α) (nc : Nat → α) (G : Geom) (h : Hyper α) (skipP : Bool) (mk : SlotK α)
    (cfg : DSCfg) (s : ParamState α) (g param : List α)
    (hgr : (dsGraftStep sqrt nc h.g g s.fo.diag).1.length = prod G.shape) (hg : g.length = prod G.shape)
    (hp : param.length = prod G.shape) (hm : s.fo.mom.length = prod G.shape)
    (hdm : s.fo.dmom.length = prod G.shape) :
    lowParamStep sqrt nc G h skipP mk cfg s (g, param) = specParamStep sqrt nc G h skipP mk cfg s (g, param) := by
  unfold lowParamStep specParamStep paramStepWith
  dsimp only
  rw [lowUpdate_eq_specUpdate sqrt nc cfg.sharded G h s.count skipP g param s.fo _ _ hgr hg hp hm hdm]

/-- **(2) for arbitrary certified per-slot routines** (`slotKernelsWith`): every matrix the update of step `t` is computed
with is the slot's initial one or carries its routine's certificate for the slot's statistics at a refresh step `r ≤ t`
(`r < t` sharded), with an accepted error. -/
theorem update_uses_certified_roots (thr : XF) (hthr : thr.isNaN = false)
    (rootOf : Nat → Mx α → Mx α → Unit → Mx α × XF) (Cert : Nat → Mx α → Mx α → XF → Prop) (I : Nat → Mx α → Prop)
    (hcert : ∀ i st prev f, I i st → Cert i st (rootOf i st prev f).1 (rootOf i st prev f).2)
    (G : Geom) (w1 w2 : α) (hupd : ∀ i st g, I i st → I i (slotStatsUpd G w1 w2 i st g))
    (upd : Nat → List α → List α → PState α → List (Mx α) → List (Mx α) → Option (TOut α))
    (cfg : DSCfg) (s0 : ParamState α) (hist : List (List α × List α)) (t : Nat) (ht : t < hist.length)
    (i : Nat) (hi : i < s0.slots.length) (h0 : I i s0.slots[i].stats) :
    let mk := slotKernelsWith thr rootOf G w1 w2
    let S := stateAt (paramStepWith upd mk cfg) s0 hist
    ∃ P, (usedAt mk cfg (S t) hist[t].1)[i]? = some P ∧
      (P = s0.slots[i].precond ∨
        ∃ r slr e, (r < t ∨ (cfg.sharded = false ∧ r = t)) ∧
          (s0.slots[i].count + r) % cfg.interval (s0.slots[i].count + r) = 0 ∧
          (S (r + 1)).slots[i]? = some slr ∧ e.isNaN = false ∧ e.lt thr = true ∧ Cert i slr.stats P e) := by
  intro mk S
  let is' := hist.map fun x => (⟨x.1, ()⟩ : DSInp (List α) Unit)
  refine ⟨_, usedAt_getElem? upd mk cfg s0 hist t ht i hi, ?_⟩
  rcases PrecondVerif.ComposeProps.C03.stored_preconditioner_is_initial_or_certified_root thr hthr (slotStatsUpd G w1 w2 i)
      (rootOf i) id (fun _ _ _ => ((), (0 : Nat), (0 : Nat))) (fun _ _ _ _ => ((), (0 : Nat), (0 : Nat))) (fun a _ _ => a)
      (Cert i) (I i) (hcert i) cfg s0.slots[i] is' h0 (hupd i) (if cfg.sharded then t else t + 1)
      (by rw [List.length_map]; split <;> omega) with h | ⟨r, e, hr, h1, h2, h3, _, h5⟩
  · exact Or.inl h
  · refine Or.inr ⟨r, _, e, ?_, h1, paramStateAt_slot upd mk cfg i hist s0 hi (r + 1), h2, h3, h5⟩
    cases hsh : cfg.sharded
    · rw [hsh] at hr
      exact (Nat.lt_succ_iff_lt_or_eq.mp hr).imp_right fun h => ⟨rfl, h⟩
    · rw [hsh] at hr
      exact Or.inl hr

/-- **(2) `update_uses_honest_roots`.**  Along every history of (gradient, parameter) pairs, at every step `t`:
(a) the update the code-shaped model emits is the documented pipeline (`specTransform`: graft, rescale, weight decay,
momenta, warm-up selection, Nesterov, learning rate) applied to the documented blocked mode products of the gradient
with the list `used` of this step's preconditioners (`specPrecondGrad`: block `b`, axis `a` ↦ slot `b·k + #…`);
(b) every entry `P` of `used` (slot `i`, statistic size `dims i ≠ 0`) is the slot's initial preconditioner (the identity),
or an honest Newton root — `HonestRootOf`: `P = X` with reported error non-NaN and `< thr`, `retries ≥ 1`,
`|X^p · A_d − I| ≤ err` entrywise for the ridge actually used — of that slot's statistics `A` as they were after the
statistics update of a refresh step `r` (C04's schedule: `(count₀ + r) % interval(count₀ + r) = 0`), where `r ≤ t` in
replicated mode (the current step's refresh is used) and `r < t` in sharded mode (previous refresh only). -/
theorem update_uses_honest_roots (sqrt : α → α) (nc : Nat → α) (N : NewtonCfg α) (hN : NewtonOK N) (rep : α → XF)
    (thr : XF) (hthr : thr.isNaN = false) (G : Geom) (h : Hyper α) (skipP : Bool) (w1 w2 : α) (dims : Nat → Nat)
    (hd : ∀ i, dims i ≠ 0) (cfg : DSCfg) (s0 : ParamState α) (hist : List (List α × List α)) (t : Nat)
    (ht : t < hist.length) :
    let mk := slotKernels thr N rep G w1 w2 dims
    let step := lowParamStep sqrt nc G h skipP mk cfg
    let S := stateAt step s0 hist
    ((dsGraftStep sqrt nc h.g hist[t].1 (S t).fo.diag).1.length = prod G.shape → hist[t].1.length = prod G.shape →
      hist[t].2.length = prod G.shape → (S t).fo.mom.length = prod G.shape → (S t).fo.dmom.length = prod G.shape →
      (step (S t) hist[t]).2 =
        (if skipP then some hist[t].1 else specPrecondGrad G (usedAt mk cfg (S t) hist[t].1) hist[t].1).map fun pg =>
          specTransform sqrt nc h (S t).count skipP hist[t].1 hist[t].2 (S t).fo pg) ∧
    ∀ i (hi : i < s0.slots.length), ∃ P, (usedAt mk cfg (S t) hist[t].1)[i]? = some P ∧
      (P = s0.slots[i].precond ∨
        ∃ r slr, (r < t ∨ (cfg.sharded = false ∧ r = t)) ∧
          (s0.slots[i].count + r) % cfg.interval (s0.slots[i].count + r) = 0 ∧
          (S (r + 1)).slots[i]? = some slr ∧ HonestRootOf N rep thr (dims i) slr.stats P) := by
  intro mk step S
  refine ⟨fun hgr hg hp hm hdm => ?_, fun i hi => ?_⟩
  · exact congrArg Prod.snd
      (composed_low_refines_spec sqrt nc G h skipP mk cfg (S t) hist[t].1 hist[t].2 hgr hg hp hm hdm)
  · obtain ⟨P, hP, h⟩ := update_uses_certified_roots thr hthr (fun i => newtonSlotRootMx N rep (dims i))
      (fun i => NewtonCert N rep (dims i)) (fun _ _ => True)
      (fun i L prev f _ => newtonSlotRootMx_cert N hN rep (dims i) (hd i) L prev f) G w1 w2 (fun _ _ _ _ => trivial)
      _ cfg s0 hist t ht i hi trivial
    exact ⟨P, hP, h.imp_right fun ⟨r, slr, e, hr, h1, h2, h3, h4, h5⟩ => ⟨r, slr, hr, h1, h2, h5.honest h3 h4⟩⟩

/-- **(2) with the root routine as the code dispatches it** (`dispatchSlotRootMx`: the scalar branch for statistics of
size 1, the coupled Newton iteration for size ≥ 2 — so the `1 × 1` slots are covered by the branch the code takes).
Statistics weights `w1, w2 ≥ 0`, initial statistics with non-negative `(0,0)` entry (`ε·I`), `ridge_epsilon > 0`,
`_EPSILON > 0`: every matrix of `used` is the initial one or carries `DispatchCert` — for `dims i = 1`: `P = (x)`,
`x = invroot (a + d)`, `x^p (a + d) = 1`, error `rep 0`; otherwise `P = X`, `e = rep err`, `retries ≥ 1`,
`|X^p · A_d − I| ≤ err` for the ridge actually used. -/
theorem update_uses_honest_roots_dispatch (N : NewtonCfg α) (hN : NewtonOK N) (rep : α → XF) (invroot : α → α)
    (he : 0 < N.eps) (hf : 0 < N.epsFloor) (hinv : ∀ x, 0 < x → invroot x ^ N.p * x = 1) (thr : XF)
    (hthr : thr.isNaN = false) (G : Geom) (w1 w2 : α) (hw1 : 0 ≤ w1) (hw2 : 0 ≤ w2) (dims : Nat → Nat)
    (hd : ∀ i, dims i ≠ 0)
    (upd : Nat → List α → List α → PState α → List (Mx α) → List (Mx α) → Option (TOut α))
    (cfg : DSCfg) (s0 : ParamState α) (hist : List (List α × List α)) (t : Nat) (ht : t < hist.length)
    (i : Nat) (hi : i < s0.slots.length) (h0 : 0 ≤ s0.slots[i].stats 0 0) :
    let mk := slotKernelsWith thr (dispatchSlotRootMx N rep invroot dims) G w1 w2
    let S := stateAt (paramStepWith upd mk cfg) s0 hist
    ∃ P, (usedAt mk cfg (S t) hist[t].1)[i]? = some P ∧
      (P = s0.slots[i].precond ∨
        ∃ r slr e, (r < t ∨ (cfg.sharded = false ∧ r = t)) ∧
          (s0.slots[i].count + r) % cfg.interval (s0.slots[i].count + r) = 0 ∧
          (S (r + 1)).slots[i]? = some slr ∧ e.isNaN = false ∧ e.lt thr = true ∧
          DispatchCert N rep invroot dims i slr.stats P e) :=
  update_uses_certified_roots thr hthr (dispatchSlotRootMx N rep invroot dims) (DispatchCert N rep invroot dims)
    (fun _ L => 0 ≤ L 0 0) (fun i L prev f hL => dispatch_cert N hN rep invroot he hf hinv dims hd i L prev f hL)
    G w1 w2 (fun i L g hL => slotStatsUpd_diag_nonneg G w1 w2 hw1 hw2 i L g 0 hL) upd cfg s0 hist t ht i hi h0

/-- **`ds_update_entry_is_block_entry`: the entry-level form of block locality, on the composed model.**  For every leaf
geometry (merging, block size, preconditioner type), every list `P` of stored preconditioners — in particular
`usedAt mk cfg (S t) g` of (2), whose entries are the identity or honest roots — and every in-bounds index `idx` of the
merged shape: `preconditioned_grad` succeeds with `reshape(u, original_shape)` flattened, for the code shape (`Low`,
rotate-and-`tensordot`) and the documented one (`Spec`) alike, and the entry `u[idx]` is the entry at `j` of the mode
products of block `k`'s own gradient slice with block `k`'s own slot matrices (`slotMats P … (specSlots … k)`: slots
`k·K + #preconditioned axes before a`), where `(k, j) = locateBlock idx` is the one block containing the entry and its
index inside it (C06 `partition_blocks_tile`, `partition_contiguous`, `partition_merge_id`).  No other block's gradient
or preconditioner enters. -/
theorem ds_update_entry_is_block_entry (G : Geom) (P : List (Mx α)) (g : List α) (idx : List Nat)
    (hi : inBounds G.tshape idx) :
    ∃ u : Tensor α, lowPrecondGrad G P g = some ((u.reshape G.shape).flat) ∧
      specPrecondGrad G P g = some ((u.reshape G.shape).flat) ∧ u.shape = G.tshape ∧
      ∃ hk : (locateBlock G.tshape G.block idx).1 < (G.blocks g).length,
        u.get idx =
          (specBlock ((G.blocks g)[(locateBlock G.tshape G.block idx).1])
            (slotMats P Mx.zero (specSlots G.ptype G.rank (locateBlock G.tshape G.block idx).1))).get
            (locateBlock G.tshape G.block idx).2 := by
  obtain ⟨u, hu, hus, hk, hget⟩ := merge_blockFn_entry ((ofFlat G.shape g).reshape G.tshape) G.block
    (fun b gb => specBlock gb (slotMats P Mx.zero (specSlots G.ptype G.rank b)))
    (fun k hk => by
      apply (lowBlock_eq_specBlock _ _ _).2.1
      rw [slotMats_specSlots_length]
      exact (blocks_shape_length G g _ (List.getElem_mem hk)).symm)
    idx hi
  have hu' : mergePartitions G.tshape G.block ((G.blocks g).zipIdx.map fun gb =>
      specBlock gb.1 (slotMats P Mx.zero (specSlots G.ptype G.rank gb.2))) = some u := by
    rw [Geom.blocks_eq]
    exact hu
  have hspec : specPrecondGrad G P g = some ((u.reshape G.shape).flat) := by
    unfold specPrecondGrad precondGradWith Geom.assemble
    rw [hu']
    rfl
  exact ⟨u, by rw [(PrecondVerif.C02.preconditioned_grad_low_eq_spec G P g).1, hspec], hspec, hus, hk, hget⟩

/-- hypothesis `hgr` of `composed_low_refines_spec` holds for a `[2, 3]` parameter with the SGD graft -/
example : (dsGraftStep (fun x : Rat => x) (fun n => (n : Rat)) ⟨.sgd, 1, 0, 0, 1, true, none, 0⟩ [1, 2, 3, 4, 5, 6] []).1.length
    = prod [2, 3] := by decide

end PrecondVerif.ComposeProps.C02

/-! ## (3) devices and the padded batch: C13 × C08 (× C01) -/

namespace PrecondVerif.ComposeProps.C13
open PrecondVerif.InvRoot PrecondVerif.BlockDiag PrecondVerif.Devices PrecondVerif.Compose

variable {α ρ : Type}

/-- **(3) `distributed_equals_single_device`.**  The preconditioner computation of one DS step for the whole tree — the
statistics of all leaves flattened, each handed to the per-matrix routine with the tree-wide `max_size` (padded,
`padding_start = size`, cut), the batch filled up with `-N % D` fillers, split over `D` replicas, every replica mapping
the routine over its slice, `all_gather`, `unbatch`, fillers dropped, every leaf given its slice back — equals, leaf by
leaf and statistic by statistic, the routine run alone on the unpadded statistic on one device.  For every `D ≥ 1`
(all residues of `N mod D`, `N < D`, the empty tree), every tree, every routine that is padding invariant, any filler. -/
theorem distributed_equals_single_device (root : Nat → Nat → A2 α → ρ)
    (root_padding_invariant : ∀ N s a, s ≤ N → root N s a = root s s a) (filler : Stat α) (D : Nat) (hD : 1 ≤ D)
    (leaves : List (List (Stat α))) :
    distributedTreeRoots root filler D leaves = leaves.map (·.map fun st => root st.size st.size st.dat) :=
  distributed_eq_map root (fun s a => root s s a) root_padding_invariant filler D hD leaves

/-- the sharded (pjit) variant: global arrays partitioned over `D` devices (a multiple of `D`, `D` fillers for an empty
tree), per-leaf views `global[index_start : index_start + count]` with C08's `indexStarts` -/
theorem sharded_equals_single_device (root : Nat → Nat → A2 α → ρ)
    (root_padding_invariant : ∀ N s a, s ≤ N → root N s a = root s s a) (filler : Stat α) (D : Nat) (hD : 1 ≤ D)
    (leaves : List (List (Stat α))) :
    shardedTreeRoots root filler D leaves = leaves.map (·.map fun st => root st.size st.size st.dat) :=
  (sharded_eq_batched root filler D hD leaves).trans (treeRootsG_eq_map root_padding_invariant leaves)

/-- hence any two device counts, and the replicated and the sharded layout, give every leaf the same roots -/
theorem distributed_same_for_any_devices_and_layout (root : Nat → Nat → A2 α → ρ)
    (root_padding_invariant : ∀ N s a, s ≤ N → root N s a = root s s a) (filler filler' : Stat α) (D D' : Nat)
    (hD : 1 ≤ D) (hD' : 1 ≤ D') (leaves : List (List (Stat α))) :
    distributedTreeRoots root filler D leaves = shardedTreeRoots root filler' D' leaves := by
  rw [distributed_equals_single_device root root_padding_invariant filler D hD,
    sharded_equals_single_device root root_padding_invariant filler' D' hD']

/-- (3) for the masked coupled Newton model of C08 (ridge computed from the statistic): no residual hypothesis — the
distributed padded batch returns, for every statistic, exactly root, error, iteration count, error ratio and
`total_retries` of the single-device unpadded run. -/
theorem distributed_equals_single_device_newton [Field α] [LinearOrder α] [IsStrictOrderedRing α] (c : Cfg α)
    (hp : 0 < c.p) (ridgeOf : Nat → A2 α → α) (filler : Stat α) (D : Nat) (hD : 1 ≤ D)
    (leaves : List (List (Stat α))) :
    distributedTreeRoots (fun N s a => paddedRoot N s c (ridgeOf s a) a) filler D leaves =
      leaves.map (·.map fun st => rootA st.size st.size c (ridgeOf st.size st.dat) st.dat) :=
  distributed_eq_map _ (fun s a => rootA s s c (ridgeOf s a) a)
    (fun _ s a hs => PrecondVerif.C08.root_padding_invariant_newton c hp hs (ridgeOf s a) a) filler D hD leaves

/-- (3) for the eigh root of C08, under the kernel's block decomposition of zero-padded matrices (`KernelPadOK`) -/
theorem distributed_equals_single_device_eigh [Field α] [LinearOrder α] [IsStrictOrderedRing α] (kernel : Kernel α)
    (hk : KernelPadOK kernel) (invE : α → α) (ridgeOf : Nat → A2 α → α) (filler : Stat α) (D : Nat) (hD : 1 ≤ D)
    (leaves : List (List (Stat α))) :
    distributedTreeRoots (fun N s a => paddedEighRoot kernel invE N s (ridgeOf s a) a) filler D leaves =
      leaves.map (·.map fun st => eighRootA kernel invE st.size st.size (ridgeOf st.size st.dat) st.dat) :=
  distributed_eq_map _ (fun s a => eighRootA kernel invE s s (ridgeOf s a) a)
    (fun _ s a hs => PrecondVerif.C08.root_padding_invariant_eigh kernel hk invE hs (ridgeOf s a) a) filler D hD leaves

/-- **Padding invariance of C01's Newton routine** (`InvRoot.newtonRoot`, the model `C01.newton_error_honest` is about):
run on an `N × N` matrix whose masked live block is that of `A₂` (`s ≤ N`, `padding_start = s`, same `max_ev` input), it
returns `blockdiag(root of A₂, 0)` with the same reported error, iteration count, error ratio and `total_retries` — every
data-dependent branch (inner-loop exit, converged/old blend, ridge escalation) is taken identically.  Proved by a
simulation between the two operation records (`Lemmas/ComposePad.lean`), for every exponent `p` including `0`. -/
theorem newton_root_padding_invariant_c01 [Field α] [LinearOrder α] [IsStrictOrderedRing α] {s N : Nat} (hs : s ≤ N)
    (c : NConsts α) (p : Nat) (pα alpha : α) (sqrt rootp cast32 : α → α) (thousand epsFloor eps maxEv : α)
    (A₁ : Mat α N N) (A₂ : Mat α s s) (hA : IsEmb (Mat.mask s A₁) (Mat.mask s A₂)) :
    let r₁ := newtonRoot s c p pα alpha sqrt rootp cast32 thousand epsFloor eps maxEv A₁
    let r₂ := newtonRoot s c p pα alpha sqrt rootp cast32 thousand epsFloor eps maxEv A₂
    IsEmb r₁.x r₂.x ∧ r₁.err = r₂.err ∧ r₁.iters = r₂.iters ∧ r₁.ratio = r₂.ratio ∧ r₁.retries = r₂.retries :=
  newtonRoot_padding_invariant hs c p pα alpha sqrt rootp cast32 thousand epsFloor eps maxEv A₁ A₂ hA

/-- C01's power iteration (`max_ev`) does not see the padding either: on `blockdiag(A, 0)` with the zero-extended start
vector it returns the estimate for `A` (same iterates on the live coordinates, same stopping step). -/
theorem power_iteration_padding_invariant_c01 [Field α] [LinearOrder α] [IsStrictOrderedRing α] {s N : Nat}
    (hs : s ≤ N) (sqrt : α → α) (tol : α) (numIters : Nat) {A₁ : Mat α N N} {A₂ : Mat α s s} (hA : IsEmb A₁ A₂)
    {v₁ : Vec α N} {v₂ : Vec α s} (hv : IsEmbV v₁ v₂) :
    powerIteration sqrt tol numIters A₁ v₁ = powerIteration sqrt tol numIters A₂ v₂ :=
  powerIteration_padding_invariant hs sqrt tol numIters hA hv

/-- hence `MaxEvPadOK` holds for both ways the optimizer obtains `max_ev`: C01's power iteration on the masked statistic
started from the masked prefix of one fixed sequence (relative ridge), and the constant (absolute ridge) -/
theorem max_ev_pad_ok [Field α] [LinearOrder α] [IsStrictOrderedRing α] (Nw : NewtonCfg α) :
    (∀ (sqrt : α → α) (tol : α) (numIters : Nat) (u : Nat → α),
        Nw.maxEvOf = piMaxEv sqrt tol numIters u → MaxEvPadOK Nw) ∧
      (∀ c : α, (Nw.maxEvOf = fun _ _ _ => c) → MaxEvPadOK Nw) := by
  refine ⟨fun sqrt tol numIters u h N s a hs => ?_, fun c h N s a _ => ?_⟩
  · rw [h]; exact piMaxEv_padding_invariant hs sqrt tol numIters u a
  · rw [h]

/-- **(3) joined to (1)–(2): `distributed_c01_roots_honest`.**  With C01's Newton routine in the batch position
(`paddedRootC01`: pad to `max_size` with `pad_square_matrix`, `padding_start = size`, cut) and a `max_ev` input that does
not see the padding (`MaxEvPadOK`; `max_ev_pad_ok`), what `D` devices compute for a statistic `st` of the tree-wide padded
batch is exactly `newtonOut N st.size (ofA2 st.size st.dat)` — the per-statistic single-device computation (1) and (2)
are about (`newtonSlotRootMx`) — and it is honest: `|X^p · A_d − I| ≤ err` for the ridge actually used.  No residual
hypothesis on the routine: its padding invariance is `newtonRoot_padding_invariant`. -/
theorem distributed_c01_roots_honest [Field α] [LinearOrder α] [IsStrictOrderedRing α] (N : NewtonCfg α)
    (hN : NewtonOK N) (hmax : MaxEvPadOK N) (filler : Stat α) (D : Nat) (hD : 1 ≤ D)
    (leaves : List (List (Stat α))) :
    distributedTreeRoots (paddedRootC01 N) filler D leaves =
        leaves.map (·.map fun st =>
          (toMx (newtonOut N st.size (ofA2 st.size st.dat)).x, (newtonOut N st.size (ofA2 st.size st.dat)).err,
            (newtonOut N st.size (ofA2 st.size st.dat)).retries)) ∧
      ∀ leaf ∈ leaves, ∀ st ∈ leaf, st.size ≠ 0 → ∀ i j,
        |((Matrix.of (newtonOut N st.size (ofA2 st.size st.dat)).x) ^ N.p *
            dampedM st.size (ofA2 st.size st.dat) (newtonRidge N st.size (ofA2 st.size st.dat) *
              10 ^ ((newtonOut N st.size (ofA2 st.size st.dat)).retries - 1))
            - Es α st.size st.size) i j| ≤ (newtonOut N st.size (ofA2 st.size st.dat)).err := by
  refine ⟨?_, fun leaf _ st _ hs => (newtonOut_honest N hN st.size hs _).2⟩
  exact distributed_eq_map _ (fun s a => (toMx (newtonOut N s (ofA2 s a)).x, (newtonOut N s (ofA2 s a)).err,
      (newtonOut N s (ofA2 s a)).retries))
    (fun M s a hs => paddedRootC01_eq N hs a (hmax M s a hs))
    filler D hD leaves

/-- **`tree_step_is_map_of_param_steps`: one whole Distributed Shampoo step of the composed model on a parameter TREE.**
`treeStepBatched` is the code shape: statistics per leaf, ONE root computation for the whole tree (all slots of all
leaves flattened, padded to the tree-wide `max_size`, split over `D` devices, gathered, regrouped), then every slot's
schedule / gate step with the result the batch returned for it and every leaf's update half.  If the batch routine is
padding invariant and is, unpadded, each slot's own routine, the result — new state of every leaf (counter, statistics,
preconditioners, errors, momenta) and every emitted update — is exactly that of stepping every leaf on its own
(`treeStepIndep` = `mapIdx` of `paramStepWith`): the leaves interact through nothing but the shared batch, and the shared
batch does not make them interact (C08 `ds_param_update_local` at the level of the whole step).  Any `D ≥ 1`, any tree. -/
theorem tree_step_is_map_of_param_steps [Field α] [LinearOrder α] [IsStrictOrderedRing α] [Inhabited α]
    (rootB : Nat → Nat → A2 α → DShampoo.Mx α × Gate.XF) (hpad : ∀ N s a, s ≤ N → rootB N s a = rootB s s a)
    (filler : Stat α) (D : Nat) (hD : 1 ≤ D)
    (upd : Nat → Nat → List α → List α → DShampoo.PState α → List (DShampoo.Mx α) → List (DShampoo.Mx α) →
      Option (DShampoo.TOut α))
    (mk : Nat → SlotK α) (dims : Nat → Nat → Nat)
    (hroot : ∀ l i L prev, (mk l i).rootAll L prev () = rootB (dims l i) (dims l i) (tabM (dims l i) L))
    (cfg : Schedule.DSCfg) (ps : List (ParamState α)) (inp : Nat → List α × List α) :
    treeStepBatched rootB filler D upd mk dims cfg ps inp = treeStepIndep upd mk cfg ps inp :=
  treeStepBatched_eq_indep rootB (fun s a => rootB s s a) hpad filler D hD upd mk dims hroot cfg ps inp

/-- … with gate ∘ C01-Newton everywhere (`slotKernels`, the kernels of (2); `newtonBatchRoot` in the batch position) no
hypothesis on the routine remains: only `MaxEvPadOK` on the `max_ev` input (`max_ev_pad_ok`).  So (1) and (2) — stated
for a single slot / parameter — hold verbatim for every leaf of a tree stepped by the distributed, batched code shape. -/
theorem tree_step_is_map_of_param_steps_newton [Field α] [LinearOrder α] [IsStrictOrderedRing α] [Inhabited α]
    (Nw : NewtonCfg α) (hmax : MaxEvPadOK Nw) (rep : α → Gate.XF) (thr : Gate.XF) (filler : Stat α) (D : Nat)
    (hD : 1 ≤ D)
    (upd : Nat → Nat → List α → List α → DShampoo.PState α → List (DShampoo.Mx α) → List (DShampoo.Mx α) →
      Option (DShampoo.TOut α))
    (G : Nat → DShampoo.Geom) (w1 w2 : α) (dims : Nat → Nat → Nat) (cfg : Schedule.DSCfg)
    (ps : List (ParamState α)) (inp : Nat → List α × List α) :
    treeStepBatched (newtonBatchRoot Nw rep) filler D upd (fun l => slotKernels thr Nw rep (G l) w1 w2 (dims l)) dims
        cfg ps inp =
      treeStepIndep upd (fun l => slotKernels thr Nw rep (G l) w1 w2 (dims l)) cfg ps inp :=
  treeStepBatched_eq_indep (newtonBatchRoot Nw rep) _ (newtonBatchRoot_eq Nw rep hmax) filler D hD upd _
    dims (fun l i L prev => by
      rw [slotKernels_rootAll]
      exact newtonSlotRootMx_eq Nw rep (dims l i) L prev) cfg ps inp

/-- **`gate_decisions_independent_of_devices`** (C13 ∘ C03 ∘ C08).  The per-matrix routine returns (root, reported error)
pairs — any routine, so any fault history: NaN / Inf / huge errors on any subset of the statistics — and is padding
invariant (in particular its error for one statistic does not depend on what else sits in the batch or on the replica it
lands on).  Then for every device count `D`, `D'` and either layout (pmap all-gather, pjit global arrays): the reported
error of every statistic, hence C03's gate decision for every slot, hence every stored slot after the gate, are those of
the single-device per-statistic computation.  A non-finite guard that reduces over the whole per-device batch makes the
routine's error depend on its batch neighbours, i.e. breaks the hypothesis `root_padding_invariant`-style locality of the
routine: that is the seeded change this statement excludes. -/
theorem gate_decisions_independent_of_devices {π : Type} (rootE : Nat → Nat → A2 α → π × Gate.XF)
    (root_padding_invariant : ∀ N s a, s ≤ N → rootE N s a = rootE s s a) (filler filler' : Stat α) (D D' : Nat)
    (hD : 1 ≤ D) (hD' : 1 ≤ D') (leaves : List (List (Stat α))) (thr : Gate.XF) (old : List (List π)) :
    let single := leaves.map (·.map fun st => rootE st.size st.size st.dat)
    (distributedTreeRoots rootE filler D leaves).map (·.map Prod.snd) = single.map (·.map Prod.snd) ∧
      (shardedTreeRoots rootE filler' D' leaves).map (·.map Prod.snd) = single.map (·.map Prod.snd) ∧
      gateTree thr (distributedTreeRoots rootE filler D leaves) old = gateTree thr single old ∧
      gateTree thr (shardedTreeRoots rootE filler' D' leaves) old = gateTree thr single old := by
  intro single
  rw [distributed_equals_single_device rootE root_padding_invariant filler D hD,
    sharded_equals_single_device rootE root_padding_invariant filler' D' hD']
  exact ⟨rfl, rfl, rfl, rfl⟩

/-- … and the whole composed tree step (statistics, batch roots, schedule / gate per slot, update half per leaf) is the
same for any two device counts -/
theorem tree_step_independent_of_devices [Field α] [LinearOrder α] [IsStrictOrderedRing α] [Inhabited α]
    (rootB : Nat → Nat → A2 α → DShampoo.Mx α × Gate.XF) (hpad : ∀ N s a, s ≤ N → rootB N s a = rootB s s a)
    (filler filler' : Stat α) (D D' : Nat) (hD : 1 ≤ D) (hD' : 1 ≤ D')
    (upd : Nat → Nat → List α → List α → DShampoo.PState α → List (DShampoo.Mx α) → List (DShampoo.Mx α) →
      Option (DShampoo.TOut α))
    (mk : Nat → SlotK α) (dims : Nat → Nat → Nat)
    (hroot : ∀ l i L prev, (mk l i).rootAll L prev () = rootB (dims l i) (dims l i) (tabM (dims l i) L))
    (cfg : Schedule.DSCfg) (ps : List (ParamState α)) (inp : Nat → List α × List α) :
    treeStepBatched rootB filler D upd mk dims cfg ps inp = treeStepBatched rootB filler' D' upd mk dims cfg ps inp := by
  rw [tree_step_is_map_of_param_steps rootB hpad filler D hD upd mk dims hroot cfg ps inp,
    tree_step_is_map_of_param_steps rootB hpad filler' D' hD' upd mk dims hroot cfg ps inp]

/-- (3) for the eigh root WITHOUT `KernelPadOK` (C08 `root_padding_invariant_eigh_unconditional`): it suffices that the
eigen-solver's answers meet the `eigh` specification (`KernelMeetsSpec` / `DsEighSpec`: orthonormal eigenvectors,
reconstruction of the masked regularised matrix, the eigenvalues zeroed by `e *= flip(ix)` are the zero ones) on the
matrices it is actually given — every statistic padded to any `max_size`, and unpadded — and `invE 0 = 0`.  Whatever
decomposition of `blockdiag(R, 0)` the kernel returns, `D` devices compute the single-device unpadded root. -/
theorem distributed_equals_single_device_eigh_unconditional [Field α] [LinearOrder α] [IsStrictOrderedRing α]
    (kernel : Kernel α) (invE : α → α) (h0 : invE 0 = 0) (ridgeOf : Nat → A2 α → α)
    (hspec : ∀ (N s : Nat) (a : A2 α), s ≤ N → KernelMeetsSpec kernel N s (ridgeOf s a) (padSq s N a))
    (hspec0 : ∀ (s : Nat) (a : A2 α), KernelMeetsSpec kernel s s (ridgeOf s a) a)
    (filler : Stat α) (D : Nat) (hD : 1 ≤ D) (leaves : List (List (Stat α))) :
    distributedTreeRoots (fun N s a => paddedEighRoot kernel invE N s (ridgeOf s a) a) filler D leaves =
      leaves.map (·.map fun st => eighRootA kernel invE st.size st.size (ridgeOf st.size st.dat) st.dat) :=
  distributed_eq_map _ (fun s a => eighRootA kernel invE s s (ridgeOf s a) a)
    (fun N s a hs => (PrecondVerif.C08.root_padding_invariant_eigh_unconditional kernel invE h0 hs _ a
      (hspec N s a hs) (hspec0 s a)).1) filler D hD leaves

/-- **eigh with padding inside the automaton, on a parameter tree.**  `eighBatchRoot`: C08's eigh root in the batch position
(pad to the tree-wide `max_size`, `padding_start = size`, cut) with a reported error computed from the statistic and that
root; every slot's own routine is the same thing unpadded.  Under the kernel specification above (no `KernelPadOK`) the
batched, distributed tree step equals the per-leaf steps — so the generic slot / parameter theorems
(`stored_preconditioner_is_initial_or_certified_root`, `update_uses_certified_roots`) hold verbatim for every leaf of a
tree stepped with `eigh=True` through the padded batch, as `tree_step_is_map_of_param_steps_newton` gives for Newton. -/
theorem tree_step_is_map_of_param_steps_eigh [Field α] [LinearOrder α] [IsStrictOrderedRing α] [Inhabited α]
    (kernel : Kernel α) (invE : α → α) (h0 : invE 0 = 0) (ridgeOf : Nat → A2 α → α)
    (hspec : ∀ (N s : Nat) (a : A2 α), s ≤ N → KernelMeetsSpec kernel N s (ridgeOf s a) (padSq s N a))
    (hspec0 : ∀ (s : Nat) (a : A2 α), KernelMeetsSpec kernel s s (ridgeOf s a) a)
    (errOf : Nat → A2 α → A2 α → Gate.XF) (thr : Gate.XF) (filler : Stat α) (D : Nat) (hD : 1 ≤ D)
    (upd : Nat → Nat → List α → List α → DShampoo.PState α → List (DShampoo.Mx α) → List (DShampoo.Mx α) →
      Option (DShampoo.TOut α))
    (G : Nat → DShampoo.Geom) (w1 w2 : α) (dims : Nat → Nat → Nat) (cfg : Schedule.DSCfg)
    (ps : List (ParamState α)) (inp : Nat → List α × List α) :
    let mk : Nat → SlotK α := fun l => slotKernelsWith thr
      (fun i L _ _ => eighBatchRoot kernel invE ridgeOf errOf (dims l i) (dims l i) (tabM (dims l i) L)) (G l) w1 w2
    treeStepBatched (eighBatchRoot kernel invE ridgeOf errOf) filler D upd mk dims cfg ps inp =
      treeStepIndep upd mk cfg ps inp := by
  intro mk
  exact treeStepBatched_eq_indep (eighBatchRoot kernel invE ridgeOf errOf) _
    (eighBatchRoot_eq kernel invE h0 ridgeOf hspec hspec0 errOf) filler D hD upd mk dims
    (fun l i L prev => by
      rw [slotKernelsWith_rootAll]
      exact eighBatchRoot_eq kernel invE h0 ridgeOf hspec hspec0 errOf _ _ _ (le_refl _)) cfg ps inp

/-- concrete instance: 3 statistics of sizes 2, 5, 3 in two leaves on 4 devices (one filler), `max_size = 5`; a routine
that only reports (size, first diagonal entry) is padding invariant, and every leaf gets its own results back -/
example :
    distributedTreeRoots (α := ℚ) (fun _ s a => (s, rdM a 0 0)) ⟨0, #[]⟩ 4
        [[⟨2, #[#[7, 0], #[0, 7]]⟩], [⟨5, #[#[1]]⟩, ⟨3, #[#[2]]⟩]]
      = [[(2, 7)], [(5, 1), (3, 2)]] := by
  decide +kernel

end PrecondVerif.ComposeProps.C13

/-! ## frequent-directions slots (C03's gated warm-start / reset slot machine × C09's guarded `_fd_update_root`) and Tearfree
Sketchy (C04's cadence × C09's bracket) -/

namespace PrecondVerif.ComposeProps.C09

section FDSlots
open PrecondVerif.FD PrecondVerif.Gate PrecondVerif.Compose Matrix

variable {R : Type} [Field R] [LinearOrder R] [IsStrictOrderedRing R] [StarRing R] [TrivialStar R]
  [StarOrderedRing R] {d k : ℕ}

/-- **`stored_fd_sketch_brackets_accepted_history`.**  C03's slot machine with the stored sketch as the warm start
(`slotRunReset`; `rf = none` is plain `slotRunDep`, `rf = some f` is `reset_preconditioner` with `reset_frequency = f`),
kernel = C09's guarded `_fd_update_root` (`fdWarmRoot`: `dsFdUpdateRootG` on the SVD of `dsB`), reported errors and
`efficient_cond` carries adversarial, any refresh interval, any start counter, any number of steps.  If the initial
sketch brackets `C` (the zero sketch brackets `0`: `brackets_zero`) then after the run the stored sketch brackets
`fdCovRun …`: the matrix obtained from `C` by `C ← β·(C_w + ridgeShift) + G̃ G̃ᵀ` at exactly the ACCEPTED refresh steps
(`count % itv = 0`, error not NaN and `< thr`), `G̃` the padding-masked gradient factor of that step, `C_w = C` normally
and `C_w = 0` on a reset step (the covariance restarts at each accepted reset step), and left UNTOUCHED by every other
step — a rejected step (NaN error after D25, error ≥ threshold) neither changes the stored sketch nor enters `C`.
`ridgeShift` is what `_fd_update_root` itself adds before decaying (per-step ridge on the active directions, re-masking):
it is part of the bracketed matrix, exactly as in C09's one-step theorem.
Hypotheses that stay (all C09's): the SVD meets `SvdSpec` on the matrices it is handed (stated for all inputs: an
external kernel), `sqrt` the non-negative root, guards window containing 1, `β ≥ 0`, `padding_start ≠ 0`,
`ridge_epsilon ≥ 0`, `error_tolerance ≥ 0`, `k ≤ d`; the initial stored state has `l ≥ 0`, `t ≥ 0` (`FdGood`). -/
theorem stored_fd_sketch_brackets_accepted_history (svd : SvdFn R d (k + d)) (sqrt pw : R → R)
    (hsq : ∀ x, 0 ≤ x → sqrt x * sqrt x = x) (hs0 : ∀ x, 0 ≤ sqrt x) (g : Guards R) (hlo : g.lo ≤ 1) (hhi : 1 ≤ g.hi)
    (hgt : 0 ≤ g.thr) (cfg : DsCfg R) (hβ : 0 ≤ cfg.β) (hps : cfg.ps ≠ 0) (he : 0 ≤ cfg.ridgeEps)
    (htol : 0 ≤ cfg.tol) (hk : k ≤ d)
    (hsvd : ∀ (st : State R d k) (G : Mat R d d), SvdSpec (dsB sqrt cfg st G) (svd (dsB sqrt cfg st G)))
    (thr : XF) (hthr : thr.isNaN = false) (itv : Nat) (rf : Option Nat) (zero : DsOut R d k → DsOut R d k)
    (hz : ∀ p, (zero p).st = State.zero d k) (Gs : Nat → Mat R d d) (errOf : Nat → DsOut R d k → XF)
    (junk : Nat → DsOut R d k) (n count : Nat) (s : Slot (DsOut R d k)) (C : Matrix (Fin d) (Fin d) R)
    (hg : FdGood s.precond.st) (hb : Brackets s.precond.st C) :
    let root := fdWarmRoot svd sqrt pw g cfg Gs errOf junk
    Brackets (slotRunReset select thr itv rf zero root count s n).precond.st
      (fdCovRun thr itv rf zero cfg Gs root count s C n) :=
  (fdWarmRoot_run_brackets svd sqrt pw hsq hs0 g hlo hhi hgt cfg hβ hps he htol hk hsvd thr hthr itv rf zero hz Gs errOf junk
    n count s C hg hb).2

/-- reading `fdCovRun`: a step that is not an accepted refresh leaves the bracketed matrix (and, by C03's
`reset_step_spec`, the stored sketch) untouched; an accepted one applies the FD recurrence, restarted from `0` on a reset
step -/
theorem fd_cov_run_step (thr : XF) (itv : Nat) (rf : Option Nat) (zero : DsOut R d k → DsOut R d k) (cfg : DsCfg R)
    (Gs : Nat → Mat R d d) (root : WarmRoot (DsOut R d k)) (count : Nat) (s : Slot (DsOut R d k))
    (C : Matrix (Fin d) (Fin d) R) (n : Nat) :
    fdCovRun thr itv rf zero cfg Gs root count s C (n + 1) =
      fdCovRun thr itv rf zero cfg Gs root (count + 1) (slotStepReset select thr itv rf zero count root s)
        (if fdAccepted thr itv count (root count (warmStart rf zero count s.precond)) then
          cfg.β • ((if isReset rf count then 0 else C) + ridgeShift cfg (warmStart rf zero count s.precond).st) +
            toM (outer (dsMaskG cfg.ps (Gs count)))
         else C) n :=
  fdCovRun_succ thr itv rf zero cfg Gs root count s C n

end FDSlots

section Sketchy
open PrecondVerif.FD PrecondVerif.Schedule PrecondVerif.Compose Matrix

variable {R : Type} [Field R] [LinearOrder R] [IsStrictOrderedRing R] [StarRing R] [TrivialStar R]
  [StarOrderedRing R] {d k m : ℕ} {υ : Type}

/-- **Sketchy's stored state brackets the covariance along the whole run.**  C04's Sketchy automaton with update
frequency `f` (any `f`, any start counter), C09's `_update_axis` (`sketchyKernels`) as its kernel, any SVD meeting its
specification, decay `β ≥ 0`, rank `k ≤ d`: if the initial sketch brackets `C` (`V diag(e²) Vᵀ ≤ C ≤ V diag(e²) Vᵀ + t·I`;
the zero sketch brackets `0`), then after every history `gs` the stored sketch brackets `covFrom β C (refreshGrads …)`,
the recurrence `C ← β·C + G Gᵀ` run over exactly the gradients of the steps with `count % f = 0` — skipped steps neither
enter the sketch nor discount it.  (Every prefix of a history is a history, so this holds at every time of the run.) -/
theorem sketchy_run_brackets_refresh_covariance (svd : SvdFn R d (k + m)) (sqrt pw : R → R)
    (hsq : ∀ x, 0 ≤ x → sqrt x * sqrt x = x) (hs0 : ∀ x, 0 ≤ sqrt x) (epsilon : R) (relative : Bool) (β : R)
    (hβ : 0 ≤ β) (hk : k ≤ d) (precondition : SkState R d k → Mat R d m → υ) (f : Nat)
    (hsvd : ∀ (st : SkState R d k) (G : Mat R d m), SvdSpec (sketchyB sqrt β st G) (svd (sketchyB sqrt β st G)))
    (gs : List (Mat R d m)) (s0 : SKState (SkState R d k)) (C : Mat R d d)
    (hlo : (toM C - toM (sketch s0.sketch.denote)).PosSemidef)
    (hhi : (toM (sketch s0.sketch.denote) + s0.sketch.t • (1 : Matrix (Fin d) (Fin d) R) - toM C).PosSemidef) :
    let s := run (sketchyStep (sketchyKernels svd sqrt pw epsilon relative β precondition) f) s0 gs
    (toM (covFrom β C (refreshGrads f s0.count gs)) - toM (sketch s.sketch.denote)).PosSemidef ∧
      (toM (sketch s.sketch.denote) + s.sketch.t • (1 : Matrix (Fin d) (Fin d) R)
        - toM (covFrom β C (refreshGrads f s0.count gs))).PosSemidef := by
  intro s
  have hs : s.sketch = (refreshGrads f s0.count gs).foldl
      (fun st G => (sketchyUpdateAxis svd sqrt pw epsilon relative β st G).st) s0.sketch :=
    sketchyRun_sketch _ f gs s0
  rw [hs]
  exact sketchy_fold_bracket svd sqrt pw hsq hs0 epsilon relative β hβ hk hsvd _ s0.sketch C hlo hhi

/-- with `update_freq = 1` every gradient enters: the bracket is around the full discounted second moment -/
theorem sketchy_every_step_is_full_covariance {γ : Type} (c : Nat) (gs : List γ) : refreshGrads 1 c gs = gs := by
  induction gs generalizing c with
  | nil => rfl
  | cons g gs ih => simp [refreshGrads, Nat.mod_one, ih]

/-- which gradients a cadence lets through: frequency 3 from counter 0 keeps steps 0, 3, 6 -/
example : refreshGrads 3 0 [10, 11, 12, 13, 14, 15, 16] = [10, 13, 16] := by decide

end Sketchy

end PrecondVerif.ComposeProps.C09

/-! ## resumption in sharded mode: C14 × C07 -/

namespace PrecondVerif.ComposeProps.C14
open PrecondVerif.Ser PrecondVerif.Layout

variable {α σ G U : Type}

/-- one sharded update keeps the initial layout (C07 `sharded_layout_fixpoint_steps` at one step) -/
theorem sharded_layout_step_fixpoint (c : Cfg) (ps : List (List Nat)) (L : ShardedLayout) (hs : c.shard = true)
    (hdims : dimsPos ps) (h : shardedInit c ps = .ok L)
    (hacc : rootReject c (globalDims c ps).2 .update = none) : shardedStep c ps L = .ok L :=
  shardedStep_init_accept c ps L (by simp [Cfg.quant2, hs]) hdims h hacc

/-- **`ds_sharded_resume_eq_uninterrupted`** (C14 ∘ C07, sharded mode): Distributed Shampoo with
`shard_optimizer_states` — global statistics / preconditioner arrays over the devices plus per-parameter local stats —
for any configuration whose root is not rejected: the C07 sharded layout `L` of `sharded_init_fn` is a fixed point of the
sharded update (`C07.sharded_layout_fixpoint_steps`), so by `C14.resume_eq_uninterrupted_of_invariant` (invariant "the
state has layout `L`") interrupting after ANY `k` steps, serializing, restoring into a template of that layout and
continuing yields exactly the updates and the final state of the uninterrupted run.  Hypotheses as in C14's replicated
instance: `layoutOf` reads the layout off a state tree, states of layout `L` have one skeleton, and the value-level step
moves the layout as C07's `shardedStep` says (tied to the real `update` by the C07 check). -/
theorem ds_sharded_resume_eq_uninterrupted (c : Cfg) (ps : List (List Nat)) (L : ShardedLayout) (hs : c.shard = true)
    (hdims : dimsPos ps) (hinit : shardedInit c ps = .ok L)
    (hacc : rootReject c (globalDims c ps).2 .update = none)
    (layoutOf : PyTree α σ → ShardedLayout) (skel : PyTree Unit σ)
    (hskel : ∀ s, layoutOf s = L → skeleton s = skel)
    (step : PyTree α σ → G → U × PyTree α σ)
    (hstep : ∀ s g, layoutOf s = L → shardedStep c ps (layoutOf s) = .ok (layoutOf (step s g).2))
    (tmpl s₀ : PyTree α σ) (h0 : layoutOf s₀ = L) (ht : layoutOf tmpl = L) (hwf : wf s₀ = true) (gs : List G)
    (k : Nat) :
    resume step tmpl s₀ gs k = .ok (run step s₀ gs) :=
  resume_of_layout_fixpoint layoutOf (shardedStep c ps) L (sharded_layout_step_fixpoint c ps L hs hdims hinit hacc)
    skel hskel step hstep tmpl s₀ h0 ht hwf gs k

end PrecondVerif.ComposeProps.C14

/-! ## Tearfree Shampoo: the blocked update is the per-block update (C15 × C04's cadence × C06's blocks) -/

namespace PrecondVerif.ComposeProps.C15
open PrecondVerif.Tearfree PrecondVerif.Shapes PrecondVerif.Compose

variable {α : Type} [Zero α] [One α] [Add α] [Sub α] [Mul α] [LT α] [DecidableLT α] [BEq α] [Max α] {P : Type}

/-- **Block level.**  One `shampoo._update` call on a (merged, padded) leaf of shape `ps` holding one stored state per
block: every block `n` goes through `tfBlockStep` — statistics cond (`count % update_statistics_freq`), then preconditioner
cond on the result, then apply — as a function of ITS OWN gradient slice `extractBlock … n` and ITS OWN stored state only;
the new state is the list of the per-block new states and the emitted update is `deblockify ∘ assembleBlocks` of the
per-block outputs (C04's Tearfree cadence, C15 `shampoo_cadence`). -/
theorem tearfree_blocked_update_is_per_block_update_blocks (eigh : EighFn α) (hp : ℕ → α → α) (cut decay : α)
    (bs sf pf : ℕ) (ps : List ℕ) (u : List α) (st : ShState α) (x : P)
    (hlen : st.blocks.length = (blocksMetadata bs ps).numBlocks) :
    let m := blocksMetadata bs ps
    let Bt := blockify (ofFlatL ps u) m
    let xs := (List.range m.numBlocks).map fun n => extractBlock Bt.flat.toArray Bt.shape m.blockSizes m.blocksAxis n
    let per := List.zipWith (tfBlockStep eigh (hp (shampooExponent ps)) cut decay m.blockSizes sf pf st.count) xs st.blocks
    ((shampooTx (P := P) eigh hp cut decay bs sf pf ps).update u st x).2 = ⟨st.count + 1, per.map Prod.fst⟩ ∧
    ((shampooTx (P := P) eigh hp cut decay bs sf pf ps).update u st x).1 =
      (deblockify (ofFlat Bt.shape (assembleBlocks (per.map Prod.snd) Bt.shape m.blockSizes m.blocksAxis)) m).flat :=
  tf_blocked_is_per_block eigh hp cut decay bs sf pf ps u st x hlen

/-- **`tearfree_blocked_update_is_per_block_update` (entry level; C06 `deblockify_pointwise` + `blockify_shape`).**  For
every leaf `_init` accepts (at most two large axes, each a multiple of the block size) and every in-bounds entry `idx`
of the (merged, padded) leaf: with `blk = blockIndexOf idx` the block the entry lies in (`blk < num_blocks`) and
`innerIndexOf idx` its index inside that block, the update entry at `idx` IS the entry at that inner index of
`tfBlockStep` — cadenced statistics update, cadenced root refresh, apply — run on block `blk`'s own gradient slice and own
stored state.  No other block's gradient or state enters. -/
theorem tearfree_blocked_update_is_per_block_update (eigh : EighFn α) (hp : ℕ → α → α) (cut decay : α)
    (bs sf pf : ℕ) (ps : List ℕ) (u : List α) (st : ShState α) (x : P) (hb : 0 < bs)
    (hle : (blocksMetadata bs ps).largeAxes.length ≤ 2)
    (hdiv : ∀ a ∈ (blocksMetadata bs ps).largeAxes, bs ∣ ps.getD a 0)
    (hlen : st.blocks.length = (blocksMetadata bs ps).numBlocks) (idx : List Nat) (hi : inBounds ps idx) :
    let m := blocksMetadata bs ps
    let Bt := blockify (ofFlatL ps u) m
    let blk := blockIndexOf m idx
    blk < m.numBlocks ∧
    (ofFlatL ps ((shampooTx (P := P) eigh hp cut decay bs sf pf ps).update u st x).1).get idx =
      rd (tfBlockStep eigh (hp (shampooExponent ps)) cut decay m.blockSizes sf pf st.count
            (extractBlock Bt.flat.toArray Bt.shape m.blockSizes m.blocksAxis blk)
            (st.blocks.getD blk ⟨[], []⟩)).2
        (ravel m.blockSizes (innerIndexOf m idx)) :=
  tf_update_entry eigh hp cut decay bs sf pf ps u st x hb hle hdiv hlen idx hi

/-- … and the block's "own gradient slice" is the contiguous sub-tensor of the leaf starting at the block's offsets
(C06 `blockify_block_contiguous`): entry `j` of `extractBlock … n` is the leaf's entry at `tfBlockOffsets n + j`. -/
theorem tearfree_block_slice_is_contiguous (bs : ℕ) (ps : List ℕ) (u : List α) (hb : 0 < bs)
    (hle : (blocksMetadata bs ps).largeAxes.length ≤ 2)
    (hdiv : ∀ a ∈ (blocksMetadata bs ps).largeAxes, bs ∣ ps.getD a 0) (n : Nat)
    (hn : n < (blocksMetadata bs ps).numBlocks) (j : List Nat) (hj : inBounds (blocksMetadata bs ps).blockSizes j) :
    let m := blocksMetadata bs ps
    let Bt := blockify (ofFlatL ps u) m
    rd (extractBlock Bt.flat.toArray Bt.shape m.blockSizes m.blocksAxis n) (ravel m.blockSizes j) =
      (ofFlatL ps u).get (addOff (tfBlockOffsets m n) j) :=
  tf_block_slice_get bs ps u hb hle hdiv n hn j hj

/-- **Padding never changes real entries** (adapter of C15's `zero_padding_invisible` — stated on Mathlib matrices — to the
block arrays `blockApply` / `applyAxis` work on).  One factor of `_precondition_blocks` along an axis of padded extent
`n + k`, with the root `blockRoot` computes from the stored statistics array `C'`, when those statistics are
`blockdiag(C, 0)` (the solver's output meets `EighSpec` for `padFn k C`; kept along every history by
`C15.padded_statistics_stay_padded`): the output entry in a real row `i < n` is `Σ_{c<n} R[i][c] · x[o,c,r]` with `R` the
root of the UNPADDED statistics — neither the padded entries of `x` nor the padding of the statistics enter — and the
entries in padding rows are exactly `0`.  (Same two lemmas as `C15.zero_padding_invisible`: `rootOfEigh_unique`,
`rootOfEigh_padEigh`; `Props/C15` itself is not imported to keep this file light.) -/
theorem tearfree_padding_never_changes_real_entries {α : Type} [Field α] [LinearOrder α] [IsStrictOrderedRing α]
    (eigh : EighFn α) (hp : α → α) (cut : α) (hcut : 0 ≤ cut) (v : AxView) (n k : Nat) (hv : v.d = n + k)
    (C' x : Array α) (C : Matrix (Fin n) (Fin n) α) (e : EighOut α n) (hs : EighSpec C e) (hw : ∀ a, 0 ≤ e.w a)
    (hs' : EighSpec (Matrix.of (padFn k C)) (eigh (n + k) (arrToMat (n + k) C')))
    (o i r : Nat) (ho : o < v.outer) (hi : i < n + k) (hr : r < v.inner) :
    rd (applyAxis v (blockRoot eigh hp cut (n + k) C') x) ((o * v.d + i) * v.inner + r) =
      if h : i < n then ∑ c : Fin n, rootOfEigh hp cut e ⟨i, h⟩ c * rd x ((o * v.d + c.val) * v.inner + r) else 0 :=
  applyAxis_padded_root eigh hp cut hcut v n k hv C' x C e hs hw hs' o i r ho hi hr

end PrecondVerif.ComposeProps.C15
