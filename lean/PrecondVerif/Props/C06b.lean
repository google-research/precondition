/-
C06 (continued) — "preconditioning with identity matrices returns the gradient unchanged".

The clause is about `Preconditioner.preconditioned_grad`, whose model (`lowPrecondGrad`: reshape → `partition` →
per block `_preconds_for_grad` + the rotate-and-`tensordot` loop → `merge_partitions` → reshape) lives with C02
(`Model/DShampoo.lean`, executed by `drv_c02`), and C02 imports C06 — hence this separate file. It combines C02's
`rotate_tensordot_eq_mode_products` with C06's `merge_partition_id` and, through `precondGradWith_congr`,
`partition_merge_id` and `merge_partition_congr` (in their lemma-layer forms `partition_mergePartitions`,
`mergePartitions_of_eqv`). Checked together with C06 (`extra_props=("Gen", "C06b")` in `harness/props/c06.py`).
-/
import PrecondVerif.Props.C02

namespace PrecondVerif.C06b
open PrecondVerif.Shapes PrecondVerif.DShampoo

variable {α : Type} [CommRing α]

/-- One block: the loop of `_precondition_block` (cyclic transpose on unpreconditioned axes, `tensordot` with the
slot's matrix on preconditioned ones) with identity matrices in the slots returns the block: same shape, same
entry at every in-bounds index — every rank, every pattern of `None` slots. -/
theorem identity_block_is_id (g : Tensor α) (slots : List (Option (Mx α)))
    (hlen : slots.length = g.shape.length) (hid : ∀ P, some P ∈ slots → IsIdMx P) :
    (lowBlock g slots).Eqv g := by
  obtain ⟨h1, _, h3⟩ := C02.rotate_tensordot_eq_mode_products g slots hlen
  have hs : (specBlock g slots).Eqv g :=
    specBlockFrom_id slots 0 g g hid (by omega) (Tensor.Eqv.refl g)
  refine ⟨h1, ?_⟩
  intro idx hi
  rw [h1] at hi
  rw [h3 idx (inBounds_length hi)]
  exact hs.2 idx (hs.1 ▸ hi)

/-- **Identity preconditioning is the identity**: `preconditioned_grad` (reshape to the merged shape, partition
into blocks, precondition every block with the slots `_preconds_for_grad` hands out, `merge_partitions`, reshape
back) returns the gradient unchanged — the assert of `merge_partitions` holds — whenever every slot it reads
(`< #blocks × #preconditioned axes`) holds an identity matrix. Every rank, shape with dims ≥ 1, block size, merge
limit, `best_effort_shape_interpretation`, and ALL / INPUT / OUTPUT. -/
theorem identity_preconditioning_is_id [Inhabited α] (G : Geom) (P : List (Mx α)) (g : List α)
    (hg : g.length = prod G.shape) (hd : ∀ d ∈ G.shape, 1 ≤ d)
    (hP : ∀ ix, ix < (G.blocks g).length * G.k → IsIdMx (P.getD ix Mx.zero)) :
    lowPrecondGrad G P g = some g := by
  have hid : precondGradWith G (fun _ blk => blk) g = some g := by
    obtain ⟨u, hu, huE⟩ := C06.merge_partition_id ((ofFlat G.shape g).reshape G.tshape) G.block
    rw [← Geom.blocks_eq] at hu
    unfold precondGradWith Geom.assemble
    rw [List.zipIdx_map_fst]
    exact (congrArg _ hu).trans (congrArg some (flat_reshape_back G g u hg huE))
  rw [(lowPrecondGrad_eq_specPrecondGrad G P g).1, ← hid]
  refine (precondGradWith_congr G _ _ g (fun _ _ => rfl) ?_).1
  intro gb hgb
  have hb : gb.2 < (G.blocks g).length := by simpa using List.snd_lt_of_mem_zipIdx hgb
  apply specBlockFrom_id _ 0 gb.1 gb.1 _ _ (Tensor.Eqv.refl _)
  · intro Q hQ
    simp only [slotMats, List.mem_map] at hQ
    obtain ⟨o, ho, hoQ⟩ := hQ
    cases o with
    | none => cases hoQ
    | some ix =>
      simp only [Option.map_some, Option.some.injEq] at hoQ
      subst hoQ
      exact hP ix (Nat.lt_of_lt_of_le (specSlots_lt _ _ _ _ ho) (Nat.mul_le_mul_right _ hb))
  · rw [Nat.zero_add, slotMats_specSlots_length, blocks_shape_length G g gb.1 (List.fst_mem_of_mem_zipIdx hgb)]

/-- … in particular with the list the oracle builds: one `jnp.eye` per shape announced by
`shapes_for_preconditioners` (whose length is exactly #blocks × #preconditioned axes, C06
`precond_shapes_agree_with_blocks`). -/
theorem identity_preconditioning_announced_is_id [Inhabited α] (G : Geom) (r : Nat) (g : List α)
    (hg : g.length = prod G.shape) (hd : ∀ d ∈ G.shape, 1 ≤ d) :
    lowPrecondGrad G ((shapesForPreconditioners G.ptype r G.tshape G.block).map fun _ => precondInit) g =
      some g := by
  apply identity_preconditioning_is_id G _ g hg hd
  intro ix hix
  have hlen := shapesForPreconditioners_length G.ptype r ((ofFlat G.shape g).reshape G.tshape) G.block
  rw [← Geom.blocks_eq] at hlen
  have hix' : ix < ((shapesForPreconditioners G.ptype r G.tshape G.block).map
      fun _ => (precondInit : Mx α)).length := by
    rw [List.length_map]
    exact hlen ▸ hix
  rw [List.getD_eq_getElem?_getD, List.getElem?_eq_getElem hix']
  simp only [List.getElem_map, Option.getD_some]
  exact precondInit_isId

/-- the documented form (`specPrecondGrad`: blocked mode products) agrees, hence is the identity too -/
theorem identity_preconditioning_spec_is_id [Inhabited α] (G : Geom) (P : List (Mx α)) (g : List α)
    (hg : g.length = prod G.shape) (hd : ∀ d ∈ G.shape, 1 ≤ d)
    (hP : ∀ ix, ix < (G.blocks g).length * G.k → IsIdMx (P.getD ix Mx.zero)) :
    specPrecondGrad G P g = some g := by
  rw [← (lowPrecondGrad_eq_specPrecondGrad G P g).1]
  exact identity_preconditioning_is_id G P g hg hd hP

/-! non-vacuity: a 2×3 gradient, block size 2, OUTPUT preconditioning: 2 blocks × 1 axis = 2 identity slots -/
example : IsIdMx (precondInit : Mx ℚ) := precondInit_isId
example : (shapesForPreconditioners .output 0 [2, 3] 2).length = 2 := by decide

end PrecondVerif.C06b
