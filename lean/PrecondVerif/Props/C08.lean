/-
C08 — block-diagonal semantics: blocks and parameters do not influence each other.

Model: `Model/BlockDiag.lean`, executed by `drv_c08` (`Rat` and `Float`).  The second-order part of Distributed Shampoo
is modelled in its *batched* code shape: the statistics of all leaves and all blocks are flattened into one list, every
statistic is padded to the tree-wide `max_size` (`pad_square_matrix`: `[[M, 0], [0, I]]`), the per-matrix routine runs
with `padding_start = size` on every element of the stack, the result is cut `[:size, :size]` and every leaf gets its
slice of the flat list back (`treeRootsG`, `leafUpdateG`).  Statistics (`_compute_stats`), grafting, momentum and the
mode products (`_transform_grad`) are `jax.tree.map`s over the leaves resp. loops over a leaf's own blocks: they enter as
the abstract per-block functions `acc`, `toStats`, `apply`.

All statements hold for every tree, every number of leaves, blocks and statistics, every size and `max_size`, every
history length (the statistics are a fold over the block's own history), every ordered field (ℚ = the driver's `Rat`
run, ℝ).  The per-matrix routine is abstract in the locality theorems, with `root_padding_invariant` as an explicit
hypothesis; `root_padding_invariant_newton` discharges it for the masked coupled Newton iteration of the model
(`rootA`: masks, ridge, Frobenius scaling, inner loop with the error-driven exit, converged/old blend, retry loop with
ridge · 10^i; `sqrt`, `z ↦ z^(1/p)` and the ridge / `max_ev` are parameters, no hypothesis on them is needed).
The `eigh` path (`eigh=True`) is covered with the eigen-solver an external kernel: `root_padding_invariant_eigh` and
`ds_param_update_local_eigh` under the hypothesis `KernelPadOK`, `root_padding_invariant_eigh_unconditional` and
`ds_param_update_local_eigh_unconditional` under the `eigh` specification alone (`KernelMeetsSpec`).
`power_iteration`'s padding invariance (zero-extended start vector) is
`ComposeProps.C13.power_iteration_padding_invariant_c01` in `Props/Compose.lean`.
Not covered by a theorem (decided on executed inputs only): float summation order inside a larger padded matmul.
-/
import PrecondVerif.Lemmas.BlockDiag
import Mathlib.Tactic.NormNum

namespace PrecondVerif.C08
open PrecondVerif.BlockDiag

variable {α : Type}

/-! ### the per-matrix routine does not see the padding -/

/-- **root_padding_invariant, Newton model.**  For every statistic `a` of size `s`, every `max_size = N ≥ s`, every
exponent `p ≥ 1`, ridge, tolerance, fuel and number of tries: padding `a` to `N × N` with an identity block, running the
masked coupled Newton routine with `padding_start = s` and cutting `[:s, :s]` gives exactly the result of the routine on
`a` itself — the root, the reported error, the iteration count, the final error ratio and `total_retries`
(so both runs also take the same data-dependent branches). -/
theorem root_padding_invariant_newton [Field α] [LinearOrder α] [IsStrictOrderedRing α]
    {s N : Nat} (c : Cfg α) (hp : 0 < c.p) (hs : s ≤ N) (ridge : α) (a : A2 α) :
    paddedRoot N s c ridge a = rootA s s c ridge a :=
  paddedRoot_eq c hp hs ridge a

/-- the padded iterate is `blockdiag(iterate, 0)`: before the cut, the root computed on the padded statistic is the
zero-extension of the root of the statistic (padded rows and columns are exactly zero). -/
theorem padded_root_is_blockdiag [Field α] [LinearOrder α] [IsStrictOrderedRing α]
    {s N : Nat} (c : Cfg α) (hp : 0 < c.p) (hs : s ≤ N) (ridge : α) (a : A2 α) :
    (rootA N s c ridge (padSq s N a)).2.h = embed N (rootA s s c ridge a).2.h ∧
    ∀ i j, (s ≤ i ∨ s ≤ j) → rdM (rootA N s c ridge (padSq s N a)).2.h i j = 0 := by
  obtain ⟨hr, hf⟩ := rootA_padSq c hp hs ridge a
  rw [hr, embedTry_h]
  refine ⟨rfl, fun i j h => ?_⟩
  rw [rdM_embed hf hs]
  exact hf.supp i j h

/-! ### batching is `map`: parameters do not influence each other -/

/-- the batched, padded, stacked computation over the whole tree is `map` of the per-matrix routine over every leaf's own
statistics, given `root_padding_invariant` for the routine: `max_size` changes only the padding. -/
theorem batched_roots_are_map {ρ : Type} (root : Nat → Nat → A2 α → ρ)
    (root_padding_invariant : ∀ N s a, s ≤ N → root N s a = root s s a) (leaves : List (List (Stat α))) :
    treeRootsG root leaves = leaves.map (·.map fun st => root st.size st.size st.dat) :=
  treeRootsG_eq_map root_padding_invariant leaves

/-- **ds_param_update_local.**  The preconditioners a leaf receives do not depend on the other leaves of the tree: put
the leaf (its list of statistics) into two arbitrary trees — other leaves added, removed, reordered, reshaped (other
statistic sizes, other `max_size`, other batch) or rescaled (other data) — and it gets the same roots, namely the
per-matrix routine applied to its own statistics.  The rest of a leaf's update (`_compute_stats`, `_transform_grad`) is a
`tree.map` that reads only this leaf's gradient, parameter and state. -/
theorem ds_param_update_local {ρ : Type} (root : Nat → Nat → A2 α → ρ)
    (root_padding_invariant : ∀ N s a, s ≤ N → root N s a = root s s a)
    (pre post pre' post' : List (List (Stat α))) (leaf : List (Stat α)) :
    (treeRootsG root (pre ++ leaf :: post))[pre.length]? = some (leaf.map fun st => root st.size st.size st.dat) ∧
    (treeRootsG root (pre ++ leaf :: post))[pre.length]? = (treeRootsG root (pre' ++ leaf :: post'))[pre'.length]? :=
  ⟨treeRootsG_leaf (root' := fun s a => root s s a) root_padding_invariant pre post leaf,
    treeRootsG_leaf_indep (root' := fun s a => root s s a) root_padding_invariant pre post pre' post' leaf⟩

/-- **ds_block_update_local.**  The pre-graft update of a blocked leaf, computed through the tree-wide batched pipeline
with any `max_size = N` that fits, is block by block the single-tensor update of that block's own gradient history:
statistics folded over the block's history, roots of those statistics (unpadded), mode products with the block's
gradient. -/
theorem ds_block_update_local {γ σ ρ : Type} (root : Nat → Nat → A2 α → ρ)
    (root_padding_invariant : ∀ N s a, s ≤ N → root N s a = root s s a)
    (acc : σ → γ → σ) (init : σ) (toStats : σ → List (Stat α)) (apply : List ρ → γ → γ) (N : Nat)
    (blocksHist : List (List γ)) (cur : List γ)
    (hN : ∀ h ∈ blocksHist, ∀ st ∈ toStats (blockStats acc init h), st.size ≤ N) :
    leafUpdateG root acc init toStats apply N blocksHist cur
      = List.zipWith (fun h g => blockUpdateG root acc init toStats apply h g) blocksHist cur :=
  leafUpdateG_eq (root' := fun s a => root s s a) root_padding_invariant acc init toStats apply N blocksHist cur hN

/-- the same with the Newton model as the routine (ridge computed from the statistic itself): no residual hypothesis. -/
theorem ds_block_update_local_newton [Field α] [LinearOrder α] [IsStrictOrderedRing α] {γ σ : Type}
    (c : Cfg α) (hp : 0 < c.p) (ridgeOf : Nat → A2 α → α)
    (acc : σ → γ → σ) (init : σ) (toStats : σ → List (Stat α)) (apply : List (Nat × Try α) → γ → γ) (N : Nat)
    (blocksHist : List (List γ)) (cur : List γ)
    (hN : ∀ h ∈ blocksHist, ∀ st ∈ toStats (blockStats acc init h), st.size ≤ N) :
    leafUpdateG (fun N s a => paddedRoot N s c (ridgeOf s a) a) acc init toStats apply N blocksHist cur
      = List.zipWith (fun h g => apply ((toStats (blockStats acc init h)).map
          fun st => rootA st.size st.size c (ridgeOf st.size st.dat) st.dat) g) blocksHist cur :=
  leafUpdateG_eq (root' := fun s a => rootA s s c (ridgeOf s a) a) (fun _ _ _ hs => paddedRoot_eq c hp hs _ _)
    acc init toStats apply N blocksHist cur hN

/-! ### Tearfree Shampoo -/

/-- **tearfree_blocks_local.**  With the cut taken per block (`jnp.max(w, axis=-1, keepdims=True)`), the batched root
routine on the stack of all blocks is `map` of the single-matrix routine over the blocks — for arbitrary per-block
spectra (hence arbitrary per-block gradient scales), any eigen-solver `eig`, any real power `pw`, any `eps`. -/
theorem tearfree_blocks_local [Mul α] [LT α] [DecidableLT α] [Zero α] {σ V ρ : Type}
    (eig : σ → List α × V) (mk : List α → V → ρ) (pw : α → α) (eps : α) (stats : List σ) :
    tfBatched eig mk pw eps stats = stats.map (tfOne eig mk pw eps) :=
  tfBatched_eq_map eig mk pw eps stats

/-- blocked = separate: the roots of a blocked tensor (one stack of `N` blocks) are the concatenation of the roots of
its blocks treated as `N` separate tensors (each a stack of one block). -/
theorem tearfree_blocked_eq_separate [Mul α] [LT α] [DecidableLT α] [Zero α] {σ V ρ : Type}
    (eig : σ → List α × V) (mk : List α → V → ρ) (pw : α → α) (eps : α) (stats : List σ) :
    tfBatched eig mk pw eps stats = (stats.map fun st => tfBatched eig mk pw eps [st]).flatten := by
  simp only [tfBatched_eq_map, List.map_cons, List.map_nil]
  rw [← List.flatMap_def, ← List.map_eq_flatMap]

/-- the cut mask of the batched code is the per-block mask -/
theorem tearfree_mask_local [Mul α] [LT α] [DecidableLT α] [Zero α] (eps : α) (ws : List (List α)) :
    batchedMask eps ws = ws.map (localMask eps) :=
  batchedMask_eq_map eps ws

/-- **shared_max_not_local (negative; defect D7, repaired by 45ad67a).**  Two 2×2 blocks with gradient scales 1 and
10⁻⁴ (spectra `[1, 1]` and `[10⁻⁸, 10⁻⁸]`), `eps = 10⁻⁶`.  With the cut relative to the maximum over ALL blocks
(`jnp.max(w)`, the unrepaired code) every eigenvalue of the second block is cut and its half-powers — hence its root and
its update — are 0 whatever the real power is; the per-block cut keeps them: the unrepaired routine is not `map` over the
blocks. -/
theorem shared_max_not_local :
    sharedMask (1 / 1000000 : ℚ) [[1, 1], [1 / 100000000, 1 / 100000000]] = [[false, false], [true, true]] ∧
    batchedMask (1 / 1000000 : ℚ) [[1, 1], [1 / 100000000, 1 / 100000000]] = [[false, false], [false, false]] ∧
    (∀ pw : ℚ → ℚ, halfVals pw [true, true] [1 / 100000000, 1 / 100000000] = [0, 0]) ∧
    sharedMask (1 / 1000000 : ℚ) [[1, 1], [1 / 100000000, 1 / 100000000]]
      ≠ [[1, 1], [1 / 100000000, 1 / 100000000]].map (localMask (1 / 1000000 : ℚ)) := by
  have e1 : sharedMask (1 / 1000000 : ℚ) [[1, 1], [1 / 100000000, 1 / 100000000]] = [[false, false], [true, true]] := by
    simp [sharedMask, cutMask, rowMax, maxS]; norm_num
  have e2 : batchedMask (1 / 1000000 : ℚ) [[1, 1], [1 / 100000000, 1 / 100000000]] = [[false, false], [false, false]] := by
    simp [batchedMask, cutMask, rowMax, maxS]; norm_num
  refine ⟨e1, e2, fun pw => rfl, ?_⟩
  rw [← batchedMask_eq_map, e1, e2]
  decide

/-! ### the eigh root (`eigh=True`) -/

/-- **root_padding_invariant, eigh model.**  `matrix_inverse_pth_root_eigh` with the eigen-solver an external kernel.
Hypothesis `KernelPadOK` (the `eigh` spec with zero padding): for `blockdiag(R, 0)` the kept eigenpairs — those not
zeroed by `e *= flip(ix)` — are the eigenpairs of `R` zero-extended (`blockdiag(R, 0)` has the decomposition
`blockdiag(U, I)`); nothing is assumed about the dropped columns.  Then pad / root with `padding_start = s` / cut is the
root of the unpadded statistic, for every `max_size = N ≥ s`, ridge and `e ↦ max(e, ridge)^(-1/p)`. -/
theorem root_padding_invariant_eigh [Field α] [LinearOrder α] [IsStrictOrderedRing α]
    (kernel : Kernel α) (hk : KernelPadOK kernel) (invE : α → α) {s N : Nat} (hs : s ≤ N) (ridge : α) (a : A2 α) :
    paddedEighRoot kernel invE N s ridge a = eighRootA kernel invE s s ridge a :=
  paddedEighRoot_eq_of_embed hs kernel invE ridge a (eighRootA_padSq kernel hk invE hs ridge a)

/-- before the cut the eigh root of the padded statistic is the zero-extension (padded rows and columns exactly 0) -/
theorem padded_eigh_root_is_blockdiag [Field α] [LinearOrder α] [IsStrictOrderedRing α]
    (kernel : Kernel α) (hk : KernelPadOK kernel) (invE : α → α) {s N : Nat} (hs : s ≤ N) (ridge : α) (a : A2 α) :
    eighRootA kernel invE N s ridge (padSq s N a) = embed N (eighRootA kernel invE s s ridge a) :=
  eighRootA_padSq kernel hk invE hs ridge a

/-- **ds_param_update_local for the eigh path**: with `eigh=True` a leaf receives the same roots in any two trees; the
only hypothesis is the kernel's block decomposition of zero-padded matrices. -/
theorem ds_param_update_local_eigh [Field α] [LinearOrder α] [IsStrictOrderedRing α]
    (kernel : Kernel α) (hk : KernelPadOK kernel) (invE : α → α) (ridgeOf : Nat → A2 α → α)
    (pre post pre' post' : List (List (Stat α))) (leaf : List (Stat α)) :
    (treeRootsG (fun N s a => paddedEighRoot kernel invE N s (ridgeOf s a) a) (pre ++ leaf :: post))[pre.length]?
      = some (leaf.map fun st => eighRootA kernel invE st.size st.size (ridgeOf st.size st.dat) st.dat) ∧
    (treeRootsG (fun N s a => paddedEighRoot kernel invE N s (ridgeOf s a) a) (pre ++ leaf :: post))[pre.length]?
      = (treeRootsG (fun N s a => paddedEighRoot kernel invE N s (ridgeOf s a) a) (pre' ++ leaf :: post'))[pre'.length]? := by
  have hinv : ∀ N s a, s ≤ N → paddedEighRoot kernel invE N s (ridgeOf s a) a = eighRootA kernel invE s s (ridgeOf s a) a :=
    fun _ _ _ hs => root_padding_invariant_eigh kernel hk invE hs _ _
  exact ⟨treeRootsG_leaf hinv pre post leaf, treeRootsG_leaf_indep hinv pre post pre' post' leaf⟩

/-- the Newton analogue, stated in the same form (no hypothesis besides `p ≥ 1`) -/
theorem ds_param_update_local_newton [Field α] [LinearOrder α] [IsStrictOrderedRing α]
    (c : Cfg α) (hp : 0 < c.p) (ridgeOf : Nat → A2 α → α)
    (pre post pre' post' : List (List (Stat α))) (leaf : List (Stat α)) :
    (treeRootsG (fun N s a => paddedRoot N s c (ridgeOf s a) a) (pre ++ leaf :: post))[pre.length]?
      = (treeRootsG (fun N s a => paddedRoot N s c (ridgeOf s a) a) (pre' ++ leaf :: post'))[pre'.length]? :=
  treeRootsG_leaf_indep (root := fun N s a => paddedRoot N s c (ridgeOf s a) a)
    (root' := fun s a => rootA s s c (ridgeOf s a) a) (fun _ _ _ hs => paddedRoot_eq c hp hs _ _) pre post pre' post' leaf

/-! ### the eigh root without any assumption on which eigendecomposition the kernel returns -/

/-- **eigh_root_independent_of_kernel.**  Any two eigen-solvers whose answers meet the `eigh` specification for the matrix
they are given (`DsEighSpec`: orthonormal eigenvectors, `U diag(e) Uᵀ` = the masked, regularised matrix, and the `n - s`
eigenvalues the code zeroes by `e *= flip(ix)` are the zero eigenvalues of the padding — what ascending order gives for a
PSD statistic with ridge `> 0`) produce the same root, for every spectrum (repeated and zero eigenvalues included) and
every `e ↦ max(e, ridge)^(-1/p)` obeying the code's zero-eigenvalue rule `invE 0 = 0`.  The root is a function of the
matrix (`Spectral.spectral_fn_unique`, the argument of C15's `rootOfEigh_unique` for an arbitrary function of the spectrum). -/
theorem eigh_root_independent_of_kernel [Field α] [LinearOrder α] [IsStrictOrderedRing α]
    (k1 k2 : Kernel α) (invE : α → α) (h0 : invE 0 = 0) (n s : Nat) (ridge : α) (a : A2 α)
    (h1 : KernelMeetsSpec k1 n s ridge a) (h2 : KernelMeetsSpec k2 n s ridge a) :
    eighRootA k1 invE n s ridge a = eighRootA k2 invE n s ridge a :=
  tabM_congr n fun i j hi hj => eighValF_unique invE h0 h1 h2 i j hi hj

/-- **root_padding_invariant_eigh_unconditional.**  No `KernelPadOK`: it suffices that the kernel's answers meet the `eigh`
specification on the two matrices it is actually given (the padded and the unpadded regularised statistic).  Whatever
decomposition of `blockdiag(R, 0)` it returns, the root is `blockdiag(root R, 0)`, and pad / root / cut is the root of the
statistic. -/
theorem root_padding_invariant_eigh_unconditional [Field α] [LinearOrder α] [IsStrictOrderedRing α]
    (kernel : Kernel α) (invE : α → α) (h0 : invE 0 = 0) {s N : Nat} (hs : s ≤ N) (ridge : α) (a : A2 α)
    (hN : KernelMeetsSpec kernel N s ridge (padSq s N a)) (hS : KernelMeetsSpec kernel s s ridge a) :
    paddedEighRoot kernel invE N s ridge a = eighRootA kernel invE s s ridge a ∧
    eighRootA kernel invE N s ridge (padSq s N a) = embed N (eighRootA kernel invE s s ridge a) := by
  have h := eighRootA_padSq_of_spec kernel invE h0 hs ridge a hN hS
  exact ⟨paddedEighRoot_eq_of_embed hs kernel invE ridge a h, h⟩

/-- **ds_param_update_local_eigh_unconditional.**  With `eigh=True` a leaf receives the same roots in any two trees,
provided only that the eigen-solver meets its specification on the matrices it is given (for every statistic, padded to
any `max_size` and unpadded). -/
theorem ds_param_update_local_eigh_unconditional [Field α] [LinearOrder α] [IsStrictOrderedRing α]
    (kernel : Kernel α) (invE : α → α) (h0 : invE 0 = 0) (ridgeOf : Nat → A2 α → α)
    (hspec : ∀ (N s : Nat) (a : A2 α), s ≤ N → KernelMeetsSpec kernel N s (ridgeOf s a) (padSq s N a))
    (hspec0 : ∀ (s : Nat) (a : A2 α), KernelMeetsSpec kernel s s (ridgeOf s a) a)
    (pre post pre' post' : List (List (Stat α))) (leaf : List (Stat α)) :
    (treeRootsG (fun N s a => paddedEighRoot kernel invE N s (ridgeOf s a) a) (pre ++ leaf :: post))[pre.length]?
      = some (leaf.map fun st => eighRootA kernel invE st.size st.size (ridgeOf st.size st.dat) st.dat) ∧
    (treeRootsG (fun N s a => paddedEighRoot kernel invE N s (ridgeOf s a) a) (pre ++ leaf :: post))[pre.length]?
      = (treeRootsG (fun N s a => paddedEighRoot kernel invE N s (ridgeOf s a) a) (pre' ++ leaf :: post'))[pre'.length]? := by
  have hinv : ∀ N s a, s ≤ N → paddedEighRoot kernel invE N s (ridgeOf s a) a = eighRootA kernel invE s s (ridgeOf s a) a :=
    fun N s a hs => (root_padding_invariant_eigh_unconditional kernel invE h0 hs _ a (hspec N s a hs) (hspec0 s a)).1
  exact ⟨treeRootsG_leaf hinv pre post leaf, treeRootsG_leaf_indep hinv pre post pre' post' leaf⟩

/-! ### the discrete slot plan (`ds_plan`): which statistic sits where -/

/-- **slot count** = Σ over blocks of the number of preconditioned axes = #blocks × #preconditioned axes, for every shape,
block size and `PreconditionerType`. -/
theorem ds_slot_count (pt : PType) (shape : List Nat) (b : Nat) :
    (dsSlotsP pt shape b).length = (dsBlocks shape b).length * (precAxes pt shape.length).length :=
  length_slotsFrom pt shape.length 0 (dsBlocks shape b) (length_of_mem_dsBlocks shape b)

/-- **slot of (block i, k-th preconditioned axis) = i · K + k**, and it carries that block's own slice and size -/
theorem ds_slot_index (pt : PType) (shape : List Nat) (b : Nat) (i k : Nat)
    (hi : i < (dsBlocks shape b).length) (hk : k < (precAxes pt shape.length).length) :
    (dsSlotsP pt shape b)[i * (precAxes pt shape.length).length + k]? =
      some ⟨i, (precAxes pt shape.length)[k], (dsBlocks shape b)[i],
        ((dsBlocks shape b)[i].getD ((precAxes pt shape.length)[k]) (0, 0)).2⟩ := by
  have := slotsFrom_getElem pt shape.length 0 (dsBlocks shape b) (length_of_mem_dsBlocks shape b) i k hi hk
  simpa [dsSlotsP] using this

/-- **a leaf's slots are one contiguous range of the flat statistics list**, starting at `index_start` = the number of
slots of the leaves before it (= the corresponding entry of `indexStarts`), and holding exactly the leaf's own slots:
adding, removing or reshaping other leaves shifts `index_start` but never the contents of the range. -/
theorem ds_leaf_slots_contiguous (pt : PType) (b : Nat) (pre post : List (List Nat)) (sh : List Nat) :
    ((treeSlots pt b (pre ++ sh :: post)).drop (treeSlots pt b pre).length).take (dsSlotsP pt sh b).length
      = dsSlotsP pt sh b ∧
    (indexStarts ((pre ++ sh :: post).map fun s => (dsSlotsP pt s b).length) 0)[pre.length]?
      = some (treeSlots pt b pre).length := by
  constructor
  · rw [treeSlots_append, List.append_assoc, List.drop_left', List.take_left']
    · rfl
    · rfl
  · have := indexStarts_getElem (pre.map fun s => (dsSlotsP pt s b).length) (dsSlotsP pt sh b).length
      (post.map fun s => (dsSlotsP pt s b).length) 0
    simp only [List.length_map, Nat.zero_add] at this
    rw [List.map_append, List.map_cons, this, treeSlots, List.length_flatMap]

/-- the contents of a leaf's range do not depend on the other leaves at all -/
theorem ds_leaf_slots_independent (pt : PType) (b : Nat) (pre post pre' post' : List (List Nat)) (sh : List Nat) :
    ((treeSlots pt b (pre ++ sh :: post)).drop (treeSlots pt b pre).length).take (dsSlotsP pt sh b).length
      = ((treeSlots pt b (pre' ++ sh :: post')).drop (treeSlots pt b pre').length).take (dsSlotsP pt sh b).length := by
  rw [(ds_leaf_slots_contiguous pt b pre post sh).1, (ds_leaf_slots_contiguous pt b pre' post' sh).1]

/-! ### the hypotheses are satisfiable (non-vacuity) -/

/-- a concrete configuration of the Newton model over ℚ (`p = 2`; `sqrt`, `rootp` arbitrary) -/
def exCfg : Cfg ℚ := ⟨2, 2, 1 / 1000000, 6 / 5, 1 / 20, 3, 2, 10, fun x => (x + 1) / 2, fun x => x⟩

example : 0 < exCfg.p := by decide

/-- the padding theorem on a concrete 2×2 statistic padded to 4×4 -/
example : paddedRoot 4 2 exCfg (1 / 1000) (tabM 2 fun i j => if i = j then 2 else 1)
    = rootA 2 2 exCfg (1 / 1000) (tabM 2 fun i j => if i = j then 2 else 1) :=
  root_padding_invariant_newton exCfg (by decide) (by decide) _ _

/-- the Newton routine satisfies the hypothesis `root_padding_invariant` of the locality theorems -/
example (ridgeOf : Nat → A2 ℚ → ℚ) : ∀ N s a, s ≤ N →
    (fun N s a => paddedRoot N s exCfg (ridgeOf s a) a) N s a = (fun N s a => paddedRoot N s exCfg (ridgeOf s a) a) s s a :=
  fun N s a hs => by
    show paddedRoot N s exCfg (ridgeOf s a) a = paddedRoot s s exCfg (ridgeOf s a) a
    rw [paddedRoot_eq exCfg (by decide) hs, paddedRoot_eq exCfg (by decide) (le_refl s)]

/-- an eigen-solver satisfying `KernelPadOK` exists (the exact solver for diagonal matrices), so the eigh theorems are not
vacuous -/
example (g : Nat → ℚ) : KernelPadOK (diagKernel g) := diagKernel_padOK g

/-- the hypothesis `KernelMeetsSpec` of the unconditional eigh theorems is satisfiable for every size, padded or not: for
a zero statistic the matrix handed to `eigh` is `diag(ridge, …, ridge, 0, …, 0)` and the exact diagonal solver meets the
specification (in particular its first `n - s` eigenvalues are the zeros of the padding) -/
example (n s : Nat) (hs : s ≤ n) (ridge : ℚ) :
    KernelMeetsSpec (diagKernel fun i => if i < s then ridge else 0) n s ridge (#[] : A2 ℚ) :=
  diagKernel_meetsSpec n s hs ridge

example : (dsSlotsP .input [7, 3] 4).length = 2 ∧ (dsSlotsP .all [7, 3] 4).length = 4 := by decide

/-- a tree with two leaves of different statistic sizes: `max_size` is the larger one, so the first leaf is padded -/
example : maxSizeOf [[(⟨2, #[]⟩ : Stat ℚ)], [⟨5, #[]⟩, ⟨3, #[]⟩]] = 5 := by decide

end PrecondVerif.C08
