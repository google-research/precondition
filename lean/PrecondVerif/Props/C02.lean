/-
C02 — the Distributed Shampoo update equals the documented blocked-Shampoo math.

"Documented" (formalised in `Model/DShampoo.lean` by the definitions tagged `Spec`; printed here for inspection), per parameter,
per block `b` of the merged-and-partitioned gradient, per preconditioned axis `a`:

  L_{b,a} ← β2·L_{b,a} + w2·(G_b ×_a G_b)   on statistics steps,  w2 = 1 if β2 = 1 else 1 − β2,  L⁰ = ε·I
  P_{b,a} = gate(root(L_{b,a}, p)),  p = 2·#preconditioned axes, or the override           (root: C01, gate: C03)
  PG_b    = G_b ×_{a₁} P_{b,a₁} ×_{a₂} …                                                   (P^T G Q for matrices)
  graft   = graft step (7 types) · (lr if the learning rate is coupled)
  S       = PG · ‖graft‖ / (‖PG‖ + _EPSILON)                        (PG itself for GraftingType.NONE)
  u       = (S from start_preconditioning_step on, graft before)  + wd·x  (coupled weight decay)
  m       ← β1·m + w·u,   w = 1 − β1 with moving_average_for_momentum else 1      (both momenta are advanced)
  out     = w·u + β1·m (Nesterov) or m;   + (lr if coupled else 1)·wd·x  (decoupled weight decay)
  update  = −(lr if decoupled else 1)·out
In sharded mode `PG` uses the preconditioners stored BEFORE this step.

The theorems show that the code-shaped model `Low` (flat statistics list with a running index, `_preconds_for_grad`
slots with `None`, rotate-and-`tensordot` loop, arithmetic selection `run*a + (1−run)*b`) refines this `Spec`; the
inverse root is an abstract function in both (it is not even mentioned: the comparison is split at the state
boundary), so the statements are independent of Newton / eigh / ridge escalation.
-/
import PrecondVerif.Props.C06
import PrecondVerif.Lemmas.DShampoo

set_option linter.unusedSectionVars false

namespace PrecondVerif.C02
open PrecondVerif.Shapes PrecondVerif.Graft PrecondVerif.DShampoo

/-- Flat index ↔ (block, preconditioned axis): `s = b·k + j` is a bijection between `[0, n·k)` and
`[0, n) × [0, k)`, and the statistics loop (which counts `preconditioned_dims`) and the preconditioner slices
(which use `num_preconditioners = sum(should_precondition_dims)`) agree on `k`. -/
theorem stats_slot_bijection (G : Geom) (n : Nat) :
    G.pdims.length = G.k ∧
    (∀ b j, b < n → j < G.k → b * G.k + j < n * G.k ∧ (b * G.k + j) / G.k = b ∧ (b * G.k + j) % G.k = j) ∧
    (∀ s, s < n * G.k → s / G.k < n ∧ s % G.k < G.k ∧ s / G.k * G.k + s % G.k = s) := by
  refine ⟨pdims_length G, fun b j hb hj =>
    ⟨mul_add_lt_mul b n G.k j hb hj, (divmod_of_lt b j G.k hj).1, (divmod_of_lt b j G.k hj).2⟩, ?_⟩
  · intro s hs
    have hk : 0 < G.k := Nat.pos_of_ne_zero (by intro h0; simp [h0] at hs)
    exact ⟨Nat.div_lt_of_lt_mul (by rwa [Nat.mul_comm]), Nat.mod_lt _ hk, Nat.div_add_mod' s _⟩

section Generic
variable {α : Type} [Add α] [Mul α] [OfNat α 0]

/-- The flat statistics list produced by the loop of `updated_statistics_from_grad` (running `index`) is the
documented family: slot `b·k + j` holds `w1·L + w2·(G_b ×_a G_b)` for block `b` and the `j`-th preconditioned
axis `a`; on a non-statistics step nothing changes. Every rank, block count, `k`. -/
theorem stats_flat_list_eq_spec [Inhabited α] (G : Geom) (w1 w2 : α) (si step : Nat) (stats : List (Mx α))
    (g : List α) : lowStats G w1 w2 si step stats g = specStats G w1 w2 si step stats g := by
  unfold lowStats specStats
  split
  · apply List.ext_getElem?
    intro s
    simp only [lowNewStats]
    by_cases hs : s < (G.blocks g).length * G.pdims.length
    · obtain ⟨hk, -, hdm⟩ := stats_slot_bijection G (G.blocks g).length
      rw [← hk] at hdm
      obtain ⟨hb, hj, e⟩ := hdm s hs
      have := lowStatsGo_getElem? w1 w2 stats G.pdims (G.blocks g) 0 _ _ hb hj
      rw [e] at this
      rw [this, List.getElem?_map, List.getElem?_range hs]
      simp [specNewStat, List.getD_eq_getElem?_getD, List.getElem?_eq_getElem hb, List.getElem?_eq_getElem hj, e]
    · rw [List.getElem?_eq_none (by rw [lowStatsGo_length]; omega), List.getElem?_eq_none (by simp; omega)]
  · rfl

/-- Entry of the flat list, explicitly. -/
theorem stats_slot_value (w1 w2 : α) (stats : List (Mx α)) (pdims : List Nat) (blocks : List (Tensor α))
    (b j : Nat) (hb : b < blocks.length) (hj : j < pdims.length) :
    (lowNewStats w1 w2 stats blocks pdims)[b * pdims.length + j]? =
      some (statStep w1 w2 (stats.getD (b * pdims.length + j) Mx.zero) blocks[b] pdims[j]) := by
  have := lowStatsGo_getElem? w1 w2 stats pdims blocks 0 b j hb hj
  simpa [lowNewStats] using this

/-- `_preconds_for_grad` (with its `None` padding for INPUT / OUTPUT) gives axis `a` of block `b` the slot
`b·k + #preconditioned axes before a`, and no slot to an axis that is not preconditioned. -/
theorem slots_low_eq_spec (pt : PType) (rank b : Nat) : lowSlots pt rank b = specSlots pt rank b :=
  lowSlots_eq_specSlots pt rank b

/-- The loop of `_precondition_block` (tensordot with the first axis / cyclic transpose, once per axis) returns
the mode products along the preconditioned axes and the identity along the others — same shape, same entry at
every index — for every rank and every pattern of preconditioned axes. -/
theorem rotate_tensordot_eq_mode_products (g : Tensor α) (slots : List (Option (Mx α)))
    (h : slots.length = g.shape.length) :
    (lowBlock g slots).shape = g.shape ∧ (specBlock g slots).shape = g.shape ∧
    ∀ idx : List Nat, idx.length = g.shape.length → (lowBlock g slots).get idx = (specBlock g slots).get idx :=
  lowBlock_eq_specBlock g slots h

/-- Matrices: the loop computes `Pᵀ G Q`, i.e. `Σ_b (Σ_a G[a,b]·P[a,i])·Q[b,j]`. -/
theorem precondition_matrix_PtGQ (g : Tensor α) (m n : Nat) (hs : g.shape = [m, n]) (P Q : Mx α) (i j : Nat) :
    (lowBlock g [some P, some Q]).get [i, j] =
      lsum ((List.range n).map fun b => lsum ((List.range m).map fun a => g.get [a, b] * P a i) * Q b j) := by
  have h := (lowBlock_eq_specBlock g [some P, some Q] (by simp [hs])).2.2 [i, j] (by simp [hs])
  rw [h]
  simp [specBlock, specBlockFrom, modeProd, hs]

/-- One-sided preconditioning of a matrix (OUTPUT): only the last axis is multiplied, `G Q`. -/
theorem precondition_matrix_output (g : Tensor α) (m n : Nat) (hs : g.shape = [m, n]) (Q : Mx α) (i j : Nat) :
    (lowBlock g [none, some Q]).get [i, j] = lsum ((List.range n).map fun b => g.get [i, b] * Q b j) := by
  have h := (lowBlock_eq_specBlock g [none, some Q] (by simp [hs])).2.2 [i, j] (by simp [hs])
  rw [h]
  simp [specBlock, specBlockFrom, modeProd, hs]

end Generic

section Field
variable {α : Type} [Field α] [LinearOrder α] [IsStrictOrderedRing α]

/-- For `run ∈ {0, 1}` (it is `(step ≥ start).astype(float)`) and operands of a field (finite values), the
arithmetic selection of the code is the documented selection. (On non-finite operands it is not: C03.) -/
theorem blend_eq_select (step start : Nat) (a b : List α) (h : a.length = b.length) :
    blend (runShampoo step start : α) a b = selectRun step start a b :=
  DShampoo.blend_eq_select step start a b h

/-- One coordinate: for `r ∈ {0, 1}` the arithmetic `r·x + (1−r)·y` is the selection. -/
theorem blend_eq_select_scalar (r x y : α) (h : r = 0 ∨ r = 1) :
    r * x + (1 - r) * y = if r = 1 then x else y := by
  rcases h with h | h <;> subst h <;> simp

/-- `_transform_grad` with its arithmetic selection equals the documented pipeline, whenever the vectors of one
parameter have one length. -/
theorem transform_low_eq_spec (sqrt : α → α) (nc : Nat → α) (h : Hyper α) (step : Nat) (skip : Bool)
    (g param : List α) (st : PState α) (precond : List α) (n : Nat)
    (hgr : (dsGraftStep sqrt nc h.g g st.diag).1.length = n) (hp : param.length = n) (hpc : precond.length = n)
    (hm : st.mom.length = n) (hdm : st.dmom.length = n) :
    lowTransform sqrt nc h step skip g param st precond = specTransform sqrt nc h step skip g param st precond :=
  lowTransform_eq_specTransform sqrt nc h step skip g param st precond n hgr hp hpc hm hdm

/-- The documented per-coordinate formula, all 2⁵ flag combinations at once (`docCoord`): candidate selection,
coupled weight decay, momentum, Nesterov, decoupled weight decay, −lr — in this order. -/
theorem update_coordinate_formula (sqrt : α → α) (nc : Nat → α) (h : Hyper α) (step : Nat) (skip : Bool)
    (g param : List α) (st : PState α) (precond : List α) (i : Nat) (s gr x m dm : α)
    (hs : (candidates sqrt nc h skip g param st precond).shampoo[i]? = some s)
    (hg : (candidates sqrt nc h skip g param st precond).graft[i]? = some gr)
    (hx : param[i]? = some x) (hm : st.mom[i]? = some m) (hdm : st.dmom[i]? = some dm) :
    (specTransform sqrt nc h step skip g param st precond).upd[i]? =
      some (docCoord h (decide (h.g.start ≤ step)) s gr x m dm) := by
  have hsWd : (candidates sqrt nc h skip g param st precond).sWd[i]? =
      some (s + if coupledWd h then h.wd * x else 0) :=
    getElem?_ite_zipWith (coupledWd h) (fun p => h.wd * p) _ param i s x hs hx
  have hgWd : (candidates sqrt nc h skip g param st precond).gWd[i]? =
      some (gr + if coupledWd h then h.wd * x else 0) :=
    getElem?_ite_zipWith (coupledWd h) (fun p => h.wd * p) _ param i gr x hg hx
  have hmS := momStep_getElem? h.beta1 (momW h) st.mom _ i m _ hm hsWd
  have hmG := momStep_getElem? h.beta1 (momW h) st.dmom _ i dm _ hdm hgWd
  unfold specTransform selectRun docCoord docOut
  by_cases hrun : h.g.start ≤ step
  · simp only [hrun, if_true, decide_true]
    exact finishUpd_getElem? h param _ _ i x _ _ hx hmS hsWd
  · simp only [hrun, if_false, decide_false, Bool.false_eq_true]
    exact finishUpd_getElem? h param _ _ i x _ _ hx hmG hgWd

/-- Nesterov uses the momentum AFTER this step's accumulation and the update AFTER coupled weight decay:
`w·u + β1·(β1·m + w·u)`; without Nesterov the result is the new momentum `β1·m + w·u`. -/
theorem momentum_nesterov_order (h : Hyper α) (run : Bool) (s gr x m dm u m0 : α) (hd : decoupledWdOn h = false)
    (hu : u = (if run then s else gr) + (if coupledWd h then h.wd * x else 0))
    (hm0 : m0 = if run then m else dm) :
    docCoord h run s gr x m dm =
      -(momentumMultiplier h.g) *
        (if h.nesterov then momW h * u + h.beta1 * (h.beta1 * m0 + momW h * u) else h.beta1 * m0 + momW h * u) := by
  unfold docCoord docOut
  rw [hd, ← hu, ← hm0]
  simp only [Bool.false_eq_true, if_false, add_zero]
  cases h.nesterov
  · simp only [Bool.false_eq_true, if_false]
    ring
  · simp only [if_true]
    ring

/-- Coupled weight decay enters the update BEFORE the momentum (so it is accumulated): the result is the one
for `wd = 0` with both candidates shifted by `wd·x`. Decoupled weight decay is added AFTER momentum and Nesterov,
is never accumulated, and is multiplied by `lr` exactly once (through `wd_lr` when the learning rate is coupled,
through the final `−lr` when it is decoupled). -/
theorem weight_decay_placement (h : Hyper α) (run : Bool) (s gr x m dm : α) :
    (coupledWd h = true → decoupledWdOn h = false ∧
      docOut h run s gr x m dm = docOut { h with wd := 0 } run (s + h.wd * x) (gr + h.wd * x) x m dm) ∧
    (decoupledWdOn h = true → coupledWd h = false ∧
      docOut h run s gr x m dm = docOut { h with wd := 0 } run s gr x m dm + wdLr h * h.wd * x ∧
      docCoord h run s gr x m dm =
        docCoord { h with wd := 0 } run s gr x m dm - (wdLr h * momentumMultiplier h.g) * h.wd * x) := by
  have hz0 : coupledWd ({ h with wd := 0 } : Hyper α) = false := by simp [coupledWd]
  have hz1 : decoupledWdOn ({ h with wd := 0 } : Hyper α) = false := by simp [decoupledWdOn]
  have hex : (coupledWd h && decoupledWdOn h) = false := by
    unfold coupledWd decoupledWdOn
    cases h.decoupledWd <;> simp
  refine ⟨?_, ?_⟩
  · intro hc
    have hdec : decoupledWdOn h = false := by simpa [hc] using hex
    refine ⟨hdec, ?_⟩
    -- only the candidate-plus-decay term differs; Nesterov and momentum read it as it is
    have hu : (if run then s + h.wd * x else gr + h.wd * x) + 0 = (if run then s else gr) + h.wd * x := by
      cases run <;> simp
    unfold docOut
    simp only [hc, hdec, hz0, hz1, if_true, Bool.false_eq_true, if_false, hu, momW_wd]
  · intro hdn
    have hcp : coupledWd h = false := by simpa [hdn] using hex
    have hout : docOut h run s gr x m dm = docOut { h with wd := 0 } run s gr x m dm + wdLr h * h.wd * x := by
      unfold docOut
      simp only [hcp, hdn, hz0, hz1, if_true, Bool.false_eq_true, if_false, add_zero, momW_wd]
    refine ⟨hcp, hout, ?_⟩
    unfold docCoord
    rw [hout]
    ring

/-- Learning-rate coupling. Decoupled (default): `lr` multiplies the result once, at the very end — the update
is `lr` times the update for `lr = 1` and the stored state does not depend on `lr`. Coupled: the final factor is
`−1`, `lr` multiplies the graft step (hence the transplanted norm) and the decoupled weight decay instead. -/
theorem lr_coupling (sqrt : α → α) (nc : Nat → α) (h : Hyper α) (step : Nat) (skip : Bool)
    (g param : List α) (st : PState α) (precond : List α) :
    (h.g.decoupledLr = true →
      (specTransform sqrt nc h step skip g param st precond).upd =
          (specTransform sqrt nc { h with g := { h.g with lr := 1 } } step skip g param st precond).upd.map
            (fun y => h.g.lr * y) ∧
        (specTransform sqrt nc h step skip g param st precond).st =
          (specTransform sqrt nc { h with g := { h.g with lr := 1 } } step skip g param st precond).st) ∧
    (h.g.decoupledLr = false →
      momentumMultiplier h.g = 1 ∧ precondMultiplier h.g = h.g.lr ∧ wdLr h = h.g.lr) := by
  constructor
  · intro hd
    have hc := candidates_lr sqrt nc h hd 1 skip g param st precond
    constructor
    · unfold specTransform
      rw [hc]
      exact finishUpd_lr h hd param _ _
    · unfold specTransform
      rw [hc]
  · intro hd
    simp [momentumMultiplier, precondMultiplier, wdLr, hd]

end Field

/-- Closed form of the second-moment recurrence by induction over the history, for every interleaving of
statistics and non-statistics steps: `L_T = w1^m·L⁰ + w2·Σ_s w1^{m_s}·(G_s ×_a G_s)`, `m` the number of
statistics steps, `m_s` the number of statistics steps after `s`; only statistics steps contribute. -/
theorem statistics_closed_form {α : Type} [CommRing α] (w1 w2 : α) (a i j : Nat)
    (hist : List (Bool × Tensor α)) (L0 : Mx α) :
    statRun w1 w2 a L0 hist i j = w1 ^ refreshCount hist * L0 i j + w2 * gramSum w1 a i j hist := by
  induction hist generalizing L0 with
  | nil => simp [statRun, refreshCount, gramSum]
  | cons sg rest ih =>
    unfold statRun at ih ⊢
    rw [List.foldl_cons, ih, refreshCount_cons, gramSum]
    cases h : sg.1
    · simp
    · simp only [if_true, statStep]
      ring

/-- … in particular from `L⁰ = ε·I`, with `w2 = 1` for `β2 = 1` (a plain sum) and `1 − β2` otherwise. -/
theorem statistics_closed_form_init {α : Type} [Field α] [DecidableEq α] (β2 ε : α) (a i j : Nat)
    (hist : List (Bool × Tensor α)) :
    statRun (statW1 β2) (statW2 β2) a (statInit ε) hist i j =
      β2 ^ refreshCount hist * (if i = j then ε else 0) +
        (if β2 = 1 then 1 else 1 - β2) * gramSum β2 a i j hist := by
  rw [statistics_closed_form]
  unfold statW1 statW2 statInit dsW2
  by_cases h : β2 = 1
  · subst h; simp
  · simp [h]

/-- Exponent of the inverse root: the override when given, else twice the number of preconditioned axes —
`2·rank` for ALL (and whenever rank ≤ 1), `2·(rank−1)` for INPUT, `2` for OUTPUT. -/
theorem exponent_spec (G : Geom) (override : Nat) :
    G.exponent override = (if override = 0 then 2 * G.k else override) ∧
    G.exponent 0 = 2 * (match G.ptype with
      | .all => G.rank
      | .input => if G.rank ≤ 1 then G.rank else G.rank - 1
      | .output => if G.rank ≤ 1 then G.rank else 1) := by
  constructor
  · unfold Geom.exponent Geom.k exponentForPreconditioner; rfl
  · unfold Geom.exponent
    simp only [if_true]
    exact C06.exponent_spec G.ptype G.rank

section Update
variable {α : Type} [Field α] [LinearOrder α] [IsStrictOrderedRing α] [Inhabited α]

/-- In sharded mode the update of a step is computed with the preconditioners stored BEFORE the step — whatever
this step's root computation returns (`after`) is irrelevant — and in replicated mode with the ones stored after
this step's refresh and gate. -/
theorem sharded_uses_previous_preconditioner (sqrt : α → α) (nc : Nat → α) (G : Geom) (h : Hyper α) (step : Nat)
    (skip : Bool) (g param : List α) (st : PState α) (before after after' : List (Mx α)) :
    specUpdate sqrt nc true G h step skip g param st before after =
        specUpdate sqrt nc true G h step skip g param st before after' ∧
      specUpdate sqrt nc true G h step skip g param st before after =
        specUpdate sqrt nc false G h step skip g param st after' before ∧
      specUpdate sqrt nc false G h step skip g param st before after =
        specUpdate sqrt nc false G h step skip g param st after after := by
  refine ⟨rfl, rfl, rfl⟩

/-- `Preconditioner.preconditioned_grad` (reshape, partition, `_preconds_for_grad` slots, rotate-and-tensordot per
block, `merge_partitions`, reshape) equals the documented blocked mode products, for every rank, block layout,
merging and preconditioner type; and the `assert len(partitions) == 1` of `merge_partitions` never fails. -/
theorem preconditioned_grad_low_eq_spec (G : Geom) (P : List (Mx α)) (g : List α) :
    lowPrecondGrad G P g = specPrecondGrad G P g ∧ (specPrecondGrad G P g).isSome = true :=
  lowPrecondGrad_eq_specPrecondGrad G P g

/-- **`Low` refines `Spec`** for one parameter and one `update` call, between the state boundaries: the statistics
lists are equal, and the whole update half (preconditioned gradient with the preconditioners of the mode —
previous refresh when sharded —, graft, rescale, weight decay, momenta, selection, Nesterov, learning rate: update
AND new first-order state) of the code-shaped model equals the documented math, whenever the vectors of the
parameter have `prod shape` entries. -/
theorem low_refines_spec (sqrt : α → α) (nc : Nat → α) (sharded : Bool) (G : Geom) (h : Hyper α) (w1 w2 : α)
    (si step : Nat) (skip : Bool) (stats before after : List (Mx α)) (g param : List α) (st : PState α)
    (hgr : (dsGraftStep sqrt nc h.g g st.diag).1.length = prod G.shape) (hg : g.length = prod G.shape)
    (hp : param.length = prod G.shape) (hm : st.mom.length = prod G.shape)
    (hdm : st.dmom.length = prod G.shape) :
    lowStats G w1 w2 si step stats g = specStats G w1 w2 si step stats g ∧
    lowUpdate sqrt nc sharded G h step skip g param st before after =
      specUpdate sqrt nc sharded G h step skip g param st before after :=
  ⟨stats_flat_list_eq_spec G w1 w2 si step stats g,
   lowUpdate_eq_specUpdate sqrt nc sharded G h step skip g param st before after hgr hg hp hm hdm⟩

end Update

/-- One iteration of `_precondition_block` in its compressed branch (low-rank basis, complement, scaled component,
`where(skip, …)`) equals the dense branch `tensordot(g, M, [[0],[0]])` with `M` the matrix the packed preconditioner
denotes, `c (I − V Vᵀ) + V diag(e) Vᵀ` — the identity when the preconditioner is flagged — for ANY packed content
(no orthogonality needed) and every tensor rank. -/
theorem compressed_branch_eq_denoted_dense {α : Type} [CommRing α] [BEq α] (g : Tensor α) (d r : Nat) (P : Mx α) :
    packedStep g d r P = tensordot0 g (denoteStored (.packed d r P)) :=
  packedStep_eq_tensordot0 g d r P

/-- The denoted matrix is C10's `denote` of the fields `_low_rank_unpack` reads, so C10's theorems
(`denote_is_documented_matrix`, `low_rank_root_denotes`) are about the very matrix the Spec multiplies with. -/
theorem denoted_matrix_is_C10_denote {α : Type} [CommRing α] (d r : Nat) (P : Mx α) (i b : Fin d) :
    denoteMx r P i.val b.val =
      LowRank.denote (fun (i : Fin d) (q : Fin r) => P i.val q.val) (fun q => pkE r P q.val) (pkC r P) i b := by
  unfold denoteMx LowRank.denote
  rw [lsum_range_eq_sumFin, lsum_range_eq_sumFin]
  simp only [Fin.val_inj]

section UpdateC
variable {α : Type} [Field α] [LinearOrder α] [IsStrictOrderedRing α] [Inhabited α]

/-- **`Low` refines `Spec`, compressed preconditioners included**: the update half of the code-shaped model on
STORED preconditioners (each square, or packed `d × (r+2)`; any mixture over the slots) equals the documented math
applied to the matrices they denote. -/
theorem low_refines_spec_compressed (sqrt : α → α) (nc : Nat → α) (sharded : Bool) (G : Geom) (h : Hyper α)
    (step : Nat) (skip : Bool) (g param : List α) (st : PState α) (before after : List (Stored α))
    (hgr : (dsGraftStep sqrt nc h.g g st.diag).1.length = prod G.shape) (hg : g.length = prod G.shape)
    (hp : param.length = prod G.shape) (hm : st.mom.length = prod G.shape)
    (hdm : st.dmom.length = prod G.shape) :
    lowUpdateC sqrt nc sharded G h step skip g param st before after =
      specUpdate sqrt nc sharded G h step skip g param st (before.map denoteStored) (after.map denoteStored) := by
  rw [← lowUpdate_eq_specUpdate sqrt nc sharded G h step skip g param st _ _ hgr hg hp hm hdm]
  unfold lowUpdateC lowUpdate
  rw [lowPrecondGradC_eq]
  cases sharded <;> rfl

end UpdateC

/-- hypothesis `hgr` of `low_refines_spec` / `transform_low_eq_spec` can be met: SGD graft on a 2×3 parameter -/
example : (dsGraftStep (fun x : Rat => x) (fun n => (n : Rat)) ⟨.sgd, 1, 0, 0, 1, true, none, 0⟩ [1, 2, 3, 4, 5, 6] []).1.length = prod [2, 3] := by
  decide
/-- the two slot lists `slots_low_eq_spec` equates, at rank 3, block 2: INPUT and OUTPUT -/
example : lowSlots .input 3 2 = [some 4, some 5, none] ∧ specSlots .output 3 2 = [none, none, some 2] := by decide
/-- the merged shape and the exponent `exponent_spec` speaks of, on a concrete `Geom` -/
example : (({ shape := [2, 3, 4], block := 2, mergeBlock := 6, bestEffort := true, ptype := .all } : Geom).tshape = [6, 4]) ∧
    (({ shape := [2, 3, 4], block := 2, mergeBlock := 6, bestEffort := true, ptype := .input } : Geom).exponent 0 = 2) := by
  decide
/-- hypothesis `h : r = 0 ∨ r = 1` of `blend_eq_select_scalar` -/
example : ((fun _ => (1 : Rat)) 0 = 0 ∨ (fun _ => (1 : Rat)) 0 = 1) := Or.inr rfl
/-- `refreshCount` of `statistics_closed_form` counts the statistics steps only -/
example : refreshCount [(true, (⟨[1], fun _ => (1 : Rat)⟩ : Tensor Rat)), (false, ⟨[1], fun _ => 2⟩), (true, ⟨[1], fun _ => 3⟩)] = 2 := by
  decide
/-- hypothesis `h : slots.length = g.shape.length` of `rotate_tensordot_eq_mode_products` -/
example : ([some (fun _ _ => (1 : Rat)), none] : List (Option (Mx Rat))).length = (⟨[2, 3], fun _ => (0 : Rat)⟩ : Tensor Rat).shape.length := rfl

end PrecondVerif.C02
