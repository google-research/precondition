/-
C04 — statistics / preconditioner refresh and warm-up follow the configured schedule.

Only property theorems and non-vacuity examples live here; helper lemmas are in
`Lemmas/Schedule.lean`, the automata in `Model/Schedule.lean`.

All statements hold for every kernel (statistics update, root computation with an arbitrary,
adversarial acceptance outcome, momentum updates), every statistics interval ≥ 1, every
preconditioner-interval function of the step (fixed or learning-rate scheduled), every start step,
every initial state and every gradient / fault history `is` (lists of any length: the lifted
statements are proved by induction over the history). `stateAt step s0 is k` is the optimizer state
before step number `k`, i.e. after the first `k` updates; `is[k]` is the input of step `k`.
-/
import PrecondVerif.Lemmas.Schedule

namespace PrecondVerif.C04
open PrecondVerif.Schedule

section DS
variable {σ π μ γ φ δ m α : Type} [Add α] [Mul α] [Sub α] [OfNat α 0] [OfNat α 1]
variable (K : DSKernels σ π μ γ φ δ m α) (cfg : DSCfg)

/-- One update advances the step counter by exactly one. -/
theorem count_advances_step (s : DSState σ π μ δ m) (i : DSInp γ φ) :
    (dsStep K cfg s i).1.count = s.count + 1 := rfl

/-- After `k` updates the counter is the initial counter plus `k`. -/
theorem count_advances (s0 : DSState σ π μ δ m) (is : List (DSInp γ φ)) (k : Nat)
    (hk : k ≤ is.length) :
    (stateAt (dsStep K cfg) s0 is k).count = s0.count + k :=
  stateAt_count (dsStep K cfg) (·.count) (fun _ _ => rfl) s0 is k hk

/-- Statistics are bit-for-bit the previous ones on every step whose index is not a multiple of
the statistics interval. -/
theorem stats_change_only_on_multiples (hsi : 1 ≤ cfg.si) (s0 : DSState σ π μ δ m)
    (is : List (DSInp γ φ)) (k : Nat) (hk : k < is.length) (hn : (s0.count + k) % cfg.si ≠ 0) :
    (stateAt (dsStep K cfg) s0 is (k + 1)).stats = (stateAt (dsStep K cfg) s0 is k).stats := by
  rw [stateAt_succ _ s0 is k hk, dsStep_stats K cfg _ _ hsi, count_advances K cfg s0 is k (Nat.le_of_lt hk),
    if_neg hn]

/-- On multiples of the statistics interval the statistics absorb exactly the gradient of that step. -/
theorem stats_refresh_on_multiples (hsi : 1 ≤ cfg.si) (s0 : DSState σ π μ δ m)
    (is : List (DSInp γ φ)) (k : Nat) (hk : k < is.length) (hm : (s0.count + k) % cfg.si = 0) :
    (stateAt (dsStep K cfg) s0 is (k + 1)).stats
      = K.statsUpd (stateAt (dsStep K cfg) s0 is k).stats is[k].grad := by
  rw [stateAt_succ _ s0 is k hk, dsStep_stats K cfg _ _ hsi, count_advances K cfg s0 is k (Nat.le_of_lt hk),
    if_pos hm]

/-- Over any stretch of steps `[j, k)` without a multiple of the statistics interval the statistics
stay identical (so the statistics at any time are those of the last multiple). -/
theorem stats_frozen_between_multiples (hsi : 1 ≤ cfg.si) (s0 : DSState σ π μ δ m)
    (is : List (DSInp γ φ)) (j k : Nat) (hjk : j ≤ k) (hk : k ≤ is.length)
    (hno : ∀ t, j ≤ t → t < k → (s0.count + t) % cfg.si ≠ 0) :
    (stateAt (dsStep K cfg) s0 is k).stats = (stateAt (dsStep K cfg) s0 is j).stats :=
  frozen_between (dsStep K cfg) (·.count) (·.stats) (fun t => t % cfg.si = 0)
    (fun _ _ => rfl) (fun s i hn => by rw [dsStep_stats K cfg s i hsi, if_neg hn]) s0 is j k hjk hk hno

/-- Preconditioners are the previous ones on every step whose index is not a multiple of the
interval in force at that step. The only assumption on the code constants is that the initial
error of `efficient_cond` is rejected by the gate (`threshold >= threshold`). -/
theorem precond_change_only_on_multiples (hbad : K.bad K.failMetrics = true)
    (s0 : DSState σ π μ δ m) (is : List (DSInp γ φ)) (k : Nat) (hk : k < is.length)
    (hn : (s0.count + k) % cfg.interval (s0.count + k) ≠ 0) :
    (stateAt (dsStep K cfg) s0 is (k + 1)).precond = (stateAt (dsStep K cfg) s0 is k).precond := by
  rw [← count_advances K cfg s0 is k (Nat.le_of_lt hk)] at hn
  rw [stateAt_succ _ s0 is k hk]
  exact dsStep_precond_skip K cfg _ _ hbad hn

/-- Range form: no refresh step in `[j, k)` ⇒ identical preconditioners. -/
theorem precond_frozen_between_refreshes (hbad : K.bad K.failMetrics = true)
    (s0 : DSState σ π μ δ m) (is : List (DSInp γ φ)) (j k : Nat) (hjk : j ≤ k) (hk : k ≤ is.length)
    (hno : ∀ t, j ≤ t → t < k → (s0.count + t) % cfg.interval (s0.count + t) ≠ 0) :
    (stateAt (dsStep K cfg) s0 is k).precond = (stateAt (dsStep K cfg) s0 is j).precond :=
  frozen_between (dsStep K cfg) (·.count) (·.precond) (fun t => t % cfg.interval t = 0)
    (fun _ _ => rfl) (fun s i hn => dsStep_precond_skip K cfg s i hbad hn) s0 is j k hjk hk hno

/-- The diagnostics stored with the preconditioners change only on the same steps. -/
theorem metrics_change_only_on_multiples (s0 : DSState σ π μ δ m) (is : List (DSInp γ φ)) (k : Nat)
    (hk : k < is.length) (hn : (s0.count + k) % cfg.interval (s0.count + k) ≠ 0) :
    (stateAt (dsStep K cfg) s0 is (k + 1)).metrics = (stateAt (dsStep K cfg) s0 is k).metrics := by
  rw [stateAt_succ _ s0 is k hk, dsStep_metrics, count_advances K cfg s0 is k (Nat.le_of_lt hk), if_neg hn]

/-- On a refresh step the new preconditioner is the gate applied to the root of the statistics
*after* this step's statistics update (and the stored diagnostics are those of that root). -/
theorem refresh_uses_current_stats (s0 : DSState σ π μ δ m) (is : List (DSInp γ φ)) (k : Nat)
    (hk : k < is.length) (hm : (s0.count + k) % cfg.interval (s0.count + k) = 0) :
    let s := stateAt (dsStep K cfg) s0 is k
    let s' := stateAt (dsStep K cfg) s0 is (k + 1)
    s'.precond = gate K s.precond (K.rootAll s'.stats s.precond is[k].fault) ∧
    s'.metrics = (K.rootAll s'.stats s.precond is[k].fault).2 := by
  intro s s'
  obtain ⟨e, hc⟩ : s' = (dsStep K cfg s is[k]).1 ∧ s.count = s0.count + k :=
    stateAt_succ_count _ (·.count) (fun _ _ => rfl) s0 is k hk
  rw [← hc] at hm
  rw [e]
  exact ⟨dsStep_precond_refresh K cfg s _ hm, by rw [dsStep_metrics, if_pos hm]⟩

/-- At any later time before the next refresh the preconditioner still is the (accepted) root of the
statistics that were current at the last refresh step `r`. -/
theorem precond_reflects_stats_of_last_refresh (hbad : K.bad K.failMetrics = true)
    (s0 : DSState σ π μ δ m) (is : List (DSInp γ φ)) (r k : Nat) (hrk : r < k) (hk : k ≤ is.length)
    (hm : (s0.count + r) % cfg.interval (s0.count + r) = 0)
    (hno : ∀ t, r + 1 ≤ t → t < k → (s0.count + t) % cfg.interval (s0.count + t) ≠ 0) :
    (stateAt (dsStep K cfg) s0 is k).precond
      = gate K (stateAt (dsStep K cfg) s0 is r).precond
          (K.rootAll (stateAt (dsStep K cfg) s0 is (r + 1)).stats
            (stateAt (dsStep K cfg) s0 is r).precond (is[r]'(by omega)).fault) := by
  rw [precond_frozen_between_refreshes K cfg hbad s0 is (r + 1) k hrk hk hno]
  exact (refresh_uses_current_stats K cfg s0 is r (by omega) hm).1

end DS

/-- The learning-rate scheduled interval is always at least one, whatever the schedule does
(increasing learning rates and negative intermediate values included). -/
theorem scheduled_interval_ge_one (s e : Rat) (decay : Nat → Rat) (t : Nat) :
    1 ≤ (Interval.scheduled s e decay).at t :=
  scheduledInterval_ge_one s e (decay t)

/-- It is 1 or a multiple of ten ("rounds to the nearest 10"). -/
theorem scheduled_interval_one_or_multiple_of_ten (s e : Rat) (decay : Nat → Rat) (t : Nat) :
    (Interval.scheduled s e decay).at t = 1 ∨ 10 ∣ (Interval.scheduled s e decay).at t :=
  scheduledInterval_one_or_ten s e (decay t)

section Warmup
variable {σ π μ γ φ δ m α : Type} [Ring α]
variable (K : DSKernels σ π μ γ φ δ m α) (cfg : DSCfg)

/-- Before `start_preconditioning_step` the update is exactly the graft optimizer's momentum
update (post-processed by the common nesterov / weight-decay / sign step): the Shampoo branch does
not enter. Exact over any ring; over floats it additionally needs the Shampoo branch to be finite
(`0 * x = 0`), which the correspondence run observes. -/
theorem warmup_is_graft_momentum (s : DSState σ π μ δ m) (i : DSInp γ φ) (h : s.count < cfg.start) :
    (dsStep K cfg s i).2 =
      K.finish (K.graftUpd s.graft i.grad s.count).2.2 (K.graftUpd s.graft i.grad s.count).2.1 s.count := by
  rw [dsStep_snd, runShampoo_before cfg.start s.count h, blend_zero, blend_zero]

/-- From `start_preconditioning_step` on the update is the Shampoo momentum update computed with the
preconditioner of this step (replicated mode: the freshly gated one; sharded mode: the stored one). -/
theorem after_warmup_uses_preconditioner (s : DSState σ π μ δ m) (i : DSInp γ φ)
    (h : cfg.start ≤ s.count) :
    let used := if cfg.sharded then s.precond else (dsStep K cfg s i).1.precond
    (dsStep K cfg s i).2 =
      K.finish (K.shampooUpd s.mom used i.grad s.count).2.2
        (K.shampooUpd s.mom used i.grad s.count).2.1 s.count := by
  intro used
  rw [dsStep_snd, runShampoo_after cfg.start s.count h, blend_one, blend_one]

/-- Lifted over histories started at count 0: step `k` is a warm-up step iff `k < start`. -/
theorem warmup_boundary (s0 : DSState σ π μ δ m) (h0 : s0.count = 0) (is : List (DSInp γ φ)) (k : Nat)
    (hk : k < is.length) :
    let s := stateAt (dsStep K cfg) s0 is k
    (k < cfg.start → (dsStep K cfg s is[k]).2 =
        K.finish (K.graftUpd s.graft is[k].grad k).2.2 (K.graftUpd s.graft is[k].grad k).2.1 k) ∧
    (cfg.start ≤ k → (dsStep K cfg s is[k]).2 =
        K.finish (K.shampooUpd s.mom (if cfg.sharded then s.precond else (dsStep K cfg s is[k]).1.precond)
            is[k].grad k).2.2
          (K.shampooUpd s.mom (if cfg.sharded then s.precond else (dsStep K cfg s is[k]).1.precond)
            is[k].grad k).2.1 k) := by
  intro s
  have hc : s.count = k := by
    rw [count_advances K cfg s0 is k (Nat.le_of_lt hk), h0, Nat.zero_add]
  have h1 := warmup_is_graft_momentum K cfg s is[k]
  have h2 := after_warmup_uses_preconditioner K cfg s is[k]
  rw [hc] at h1
  simp only [hc] at h2
  exact ⟨h1, h2⟩

end Warmup

section Tearfree
variable {σ ρ γ υ : Type} (K : TFKernels σ ρ γ υ) (sf pf : Nat)

/-- Tearfree Shampoo: the counter counts updates; statistics change only on multiples of
`update_statistics_freq` (absorbing that step's gradient), roots only on multiples of
`update_preconditioners_freq`, where they are the roots of the statistics after this step's
statistics update; the emitted direction uses the resulting roots. -/
theorem tearfree_cadence (s0 : TFState σ ρ) (is : List γ) (k : Nat) (hk : k < is.length) :
    let s := stateAt (tfShampooStep K sf pf) s0 is k
    let s' := stateAt (tfShampooStep K sf pf) s0 is (k + 1)
    s.count = s0.count + k ∧ s'.count = s.count + 1 ∧
    (s'.stats = if (s0.count + k) % sf = 0 then K.statsUpd s.stats is[k] else s.stats) ∧
    (s'.roots = if (s0.count + k) % pf = 0 then K.root s'.stats else s.roots) ∧
    (tfShampooStep K sf pf s is[k]).2 = K.precondition s'.roots is[k] := by
  intro s s'
  obtain ⟨e, hc⟩ : s' = (tfShampooStep K sf pf s is[k]).1 ∧ s.count = s0.count + k :=
    stateAt_succ_count _ (·.count) (fun _ _ => rfl) s0 is k hk
  refine ⟨hc, ?_⟩
  rw [← hc, e]
  exact ⟨rfl, tfShampooStep_stats K sf pf s _, tfShampooStep_roots K sf pf s _, rfl⟩

/-- Range form for Tearfree Shampoo: nothing changes between multiples. -/
theorem tearfree_frozen_between_multiples (s0 : TFState σ ρ) (is : List γ) (j k : Nat) (hjk : j ≤ k)
    (hk : k ≤ is.length) :
    ((∀ t, j ≤ t → t < k → (s0.count + t) % sf ≠ 0) →
      (stateAt (tfShampooStep K sf pf) s0 is k).stats = (stateAt (tfShampooStep K sf pf) s0 is j).stats) ∧
    ((∀ t, j ≤ t → t < k → (s0.count + t) % pf ≠ 0) →
      (stateAt (tfShampooStep K sf pf) s0 is k).roots = (stateAt (tfShampooStep K sf pf) s0 is j).roots) := by
  constructor
  · exact frozen_between (tfShampooStep K sf pf) (·.count) (·.stats) (fun t => t % sf = 0)
      (fun _ _ => rfl) (fun s g hn => by rw [tfShampooStep_stats, if_neg hn]) s0 is j k hjk hk
  · exact frozen_between (tfShampooStep K sf pf) (·.count) (·.roots) (fun t => t % pf = 0)
      (fun _ _ => rfl) (fun s g hn => by rw [tfShampooStep_roots, if_neg hn]) s0 is j k hjk hk

end Tearfree

section Sketchy
variable {κ γ υ : Type} (K : SKKernels κ γ υ) (f : Nat)

/-- Sketchy: one cadence for sketch, tail and inverse roots; the direction uses the new sketch. -/
theorem sketchy_cadence (s0 : SKState κ) (is : List γ) (k : Nat) (hk : k < is.length) :
    let s := stateAt (sketchyStep K f) s0 is k
    let s' := stateAt (sketchyStep K f) s0 is (k + 1)
    s.count = s0.count + k ∧ s'.count = s.count + 1 ∧
    (s'.sketch = if (s0.count + k) % f = 0 then K.upd s.sketch is[k] else s.sketch) ∧
    (sketchyStep K f s is[k]).2 = K.precondition s'.sketch is[k] := by
  intro s s'
  obtain ⟨e, hc⟩ : s' = (sketchyStep K f s is[k]).1 ∧ s.count = s0.count + k :=
    stateAt_succ_count _ (·.count) (fun _ _ => rfl) s0 is k hk
  refine ⟨hc, ?_⟩
  rw [← hc, e]
  exact ⟨rfl, sketchyStep_sketch K f s _, rfl⟩

/-- Range form for Sketchy. -/
theorem sketchy_frozen_between_multiples (s0 : SKState κ) (is : List γ) (j k : Nat) (hjk : j ≤ k)
    (hk : k ≤ is.length) (hno : ∀ t, j ≤ t → t < k → (s0.count + t) % f ≠ 0) :
    (stateAt (sketchyStep K f) s0 is k).sketch = (stateAt (sketchyStep K f) s0 is j).sketch :=
  frozen_between (sketchyStep K f) (·.count) (·.sketch) (fun t => t % f = 0)
    (fun _ _ => rfl) (fun s g hn => by rw [sketchyStep_sketch, if_neg hn]) s0 is j k hjk hk hno

end Sketchy

section Graft
variable {D N γ υ : Type} (dirStep : D → γ → D × υ) (normStep : N → γ → N × υ) (scale : υ → υ → υ)
variable (start : Nat) (masked : Bool)

/-- Grafting wrapper: the counter counts updates; before `start_preconditioning_step` (and for
masked tensors always) the output is the graft update itself, from that step on the direction
rescaled to the graft norm; both inner optimizers are stepped on every update. -/
theorem graft_switch_at_start (s0 : GraftState D N) (is : List γ) (k : Nat) (hk : k < is.length) :
    let step := graftStep dirStep normStep scale start masked
    let s := stateAt step s0 is k
    let s' := stateAt step s0 is (k + 1)
    s.count = s0.count + k ∧ s'.count = s.count + 1 ∧
    s'.direction = (dirStep s.direction is[k]).1 ∧ s'.norm = (normStep s.norm is[k]).1 ∧
    (step s is[k]).2 =
      if masked = true ∨ s0.count + k < start then (normStep s.norm is[k]).2
      else scale (dirStep s.direction is[k]).2 (normStep s.norm is[k]).2 := by
  intro step s s'
  obtain ⟨e, hc⟩ : s' = (step s is[k]).1 ∧ s.count = s0.count + k :=
    stateAt_succ_count _ (·.count) (fun _ _ => rfl) s0 is k hk
  refine ⟨hc, ?_⟩
  rw [← hc, e]
  exact ⟨rfl, rfl, rfl, graftStep_out dirStep normStep scale start masked s _⟩

/-- In the assembled Tearfree optimizer (grafting wrapped around Tearfree Shampoo, both started at
count 0) the two counters agree at every time, so the warm-up switch and the refresh cadence refer
to the same step index. -/
theorem tearfree_counters_in_sync {σ ρ : Type} (K : TFKernels σ ρ γ υ) (sf pf : Nat)
    (s0 : GraftState (TFState σ ρ) N) (h0 : s0.count = s0.direction.count) (is : List γ) :
    let s := run (graftStep (tfShampooStep K sf pf) normStep scale start masked) s0 is
    s.count = s.direction.count ∧ s.count = s0.count + is.length := by
  intro s
  have hc : s.count = s0.count + is.length := run_count _ (·.count) (fun _ _ => rfl) s0 is
  have hd : s.direction.count = s0.direction.count + is.length :=
    run_count _ (·.direction.count) (fun _ _ => rfl) s0 is
  exact ⟨by rw [hc, hd, h0], hc⟩

end Graft

/-! ### non-vacuity: the token instance the driver executes meets every hypothesis -/

/-- the gate hypothesis holds for the driver's kernels -/
example : tokKernels.bad tokKernels.failMetrics = true := rfl

/-- statistics interval 2, fixed preconditioner interval 3, start 2: a concrete 7-step history
where step 3 refreshes the preconditioner from the statistics that absorbed gradients 0 and 2. -/
example :
    let cfg : DSCfg := { si := 2, interval := (Interval.fixed 3).at, start := 2, sharded := false }
    let is : List (DSInp Nat Bool) := (List.range 7).map fun t => { grad := t, fault := true }
    1 ≤ cfg.si ∧ 3 < is.length ∧ (tokInit.count + 3) % cfg.interval (tokInit.count + 3) = 0 ∧
    (stateAt (dsStep tokKernels cfg) tokInit is 4).precond = some [2, 0] ∧
    (stateAt (dsStep tokKernels cfg) tokInit is 6).precond = some [2, 0] ∧
    (stateAt (dsStep tokKernels cfg) tokInit is 7).precond = some [6, 4, 2, 0] := by
  decide

/-- a scheduled interval that really moves: start 4, end 40, decay ½ gives ⌊24/10⌋·10 = 20, decay 1 gives 1 -/
example : scheduledInterval 4 40 (1/2) = 20 ∧ scheduledInterval 4 40 1 = 1 ∧ scheduledInterval 4 40 3 = 1 := by
  decide +kernel

/-- warm-up hypotheses are satisfiable on both sides of the boundary -/
example : (runShampoo 2 1 : Rat) = 0 ∧ (runShampoo 2 2 : Rat) = 1 := by decide +kernel

end PrecondVerif.C04
