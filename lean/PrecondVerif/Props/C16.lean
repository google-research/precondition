/-
C16 — OCO algorithms match closed forms; lossless S-AdaGrad is full-matrix AdaGrad.

All statements are about the definitions of `Model/OCO.lean` that `Drv/C16.lean` executes, for every
dimension `n`, every sketch size `k+1`, every history `gs` (induction over the list) and every
`lr`, `δ`. The kernels `rsqrt`, `sqrt`, `svd` are parameters; where a statement needs their
specification it is an explicit hypothesis (`sqrt 0 = 0`, `sqrt x * sqrt x = x` and `0 ≤ sqrt x` for `0 ≤ x`,
`0 < rsqrt x ∧ rsqrt x * rsqrt x * x = 1` for `0 < x`, `SvdSpec`).

Scalars: closed forms, last row and `alpha` recurrence hold over any field; the bracket holds over any
linearly ordered field with trivial star that is a `StarOrderedRing` (ℝ, ℚ, …), Loewner order via
`Matrix.PosSemidef`.
-/
import PrecondVerif.Lemmas.OCO
import Mathlib.Algebra.Order.Star.Real

set_option linter.unusedSectionVars false
set_option linter.overlappingInstances false

namespace PrecondVerif.C16
open PrecondVerif.OCO Finset Matrix

section ClosedForms
variable {α : Type} [Field α] {n : ℕ}

/-- OGD, from any state: `t` counts the steps and `w_T = w_0 − Σ_{k<T} lr · g_k · rsqrt(t_0 + (k+1) + δ)`
(the code's schedule `lr * grad * rsqrt(t + delta)` with the already incremented `t`). -/
theorem ogd_closed_form_from (rsqrt : α → α) (lr δ : α) (s : OgdState α n) (gs : List (Vec α n)) :
    (ogdRunFrom rsqrt lr δ s gs).t = s.t + gs.length ∧
    ∀ i, (ogdRunFrom rsqrt lr δ s gs).w i =
      s.w i - ∑ k ∈ range gs.length, lr * hist gs k i * rsqrt (s.t + ((k : α) + 1) + δ) := by
  induction gs generalizing s with
  | nil => simp [ogdRunFrom]
  | cons g gs ih =>
    rw [ogdRunFrom_cons]
    obtain ⟨ht, hw⟩ := ih (ogdUpdate rsqrt lr δ s g)
    refine ⟨?_, fun i => ?_⟩
    · rw [ht]; simp [ogdUpdate]; ring
    · rw [hw i, List.length_cons, sum_range_succ']
      simp only [ogdUpdate, force_eq, hist_cons_succ, hist_cons_zero, Nat.cast_add, Nat.cast_one,
        Nat.cast_zero, zero_add]
      have : ∀ k : ℕ, s.t + 1 + ((k : α) + 1) + δ = s.t + ((k : α) + 1 + 1) + δ := fun k => by ring
      simp only [this]
      ring

/-- OGD from `_ogd_init_fn` (`w_0 = 0`, `t_0 = 0`). -/
theorem ogd_closed_form (rsqrt : α → α) (lr δ : α) (gs : List (Vec α n)) :
    (ogdRun rsqrt lr δ gs).t = gs.length ∧
    ∀ i, (ogdRun rsqrt lr δ gs).w i =
      0 - ∑ k ∈ range gs.length, lr * hist gs k i * rsqrt (((k : α) + 1) + δ) := by
  obtain ⟨ht, hw⟩ := ogd_closed_form_from rsqrt lr δ (ogdInit n) gs
  refine ⟨by simpa [ogdRun, ogdInit] using ht, fun i => ?_⟩
  simpa [ogdRun, ogdInit] using hw i

/-- Diagonal AdaGrad, from any state: the accumulator is the initial one plus the sum of squared
gradients, and every step subtracts `rsqrt(where(h == 0, 1, h)) * g * lr` with the *updated* accumulator. -/
theorem adagrad_closed_form_from [BEq α] (rsqrt : α → α) (lr : α) (s : AdaState α n) (gs : List (Vec α n))
    (i : Fin n) :
    (adaRunFrom rsqrt lr s gs).diagH i = s.diagH i + ∑ k ∈ range gs.length, hist gs k i ^ 2 ∧
    (adaRunFrom rsqrt lr s gs).w i = s.w i - ∑ k ∈ range gs.length,
      rsqrt (nzOr1 (s.diagH i + ∑ u ∈ range (k + 1), hist gs u i ^ 2)) * hist gs k i * lr := by
  induction gs generalizing s with
  | nil => simp [adaRunFrom]
  | cons g gs ih =>
    rw [adaRunFrom_cons]
    obtain ⟨hh, hw⟩ := ih (adaUpdate rsqrt lr s g)
    have inner : ∀ k : ℕ, ∑ u ∈ range (k + 1), hist (g :: gs) u i ^ 2
        = g i ^ 2 + ∑ u ∈ range k, hist gs u i ^ 2 := fun k => by
      rw [sum_range_succ']; simp [add_comm]
    refine ⟨?_, ?_⟩
    · rw [hh, List.length_cons, inner]
      simp only [adaUpdate, force_eq]; ring
    · rw [hw, List.length_cons, sum_range_succ']
      simp only [inner, zero_add]
      simp only [hist_cons_succ, hist_cons_zero, adaUpdate, force_eq, range_zero, sum_empty, add_zero, pow_two,
        add_assoc]
      ring

/-- Diagonal AdaGrad from `_diag_adagrad_init_fn`: `diag_h_T = δ + Σ g_t²`. -/
theorem adagrad_closed_form [BEq α] (rsqrt : α → α) (lr δ : α) (gs : List (Vec α n)) (i : Fin n) :
    (adaRun rsqrt lr δ gs).diagH i = δ + ∑ k ∈ range gs.length, hist gs k i ^ 2 ∧
    (adaRun rsqrt lr δ gs).w i = 0 - ∑ k ∈ range gs.length,
      rsqrt (nzOr1 (δ + ∑ u ∈ range (k + 1), hist gs u i ^ 2)) * hist gs k i * lr := by
  simpa [adaRun, adaInit] using adagrad_closed_form_from rsqrt lr (adaInit n δ) gs i

/-- One AdaGrad step in the code's form. -/
theorem adagrad_step [BEq α] (rsqrt : α → α) (lr : α) (s : AdaState α n) (g : Vec α n) (i : Fin n) :
    (adaUpdate rsqrt lr s g).diagH i = s.diagH i + g i * g i ∧
    (adaUpdate rsqrt lr s g).w i = s.w i - rsqrt (nzOr1 (s.diagH i + g i * g i)) * g i * lr := by
  simp [adaUpdate]

end ClosedForms

section Sketched
variable {α : Type} [Field α] [LinearOrder α] {k n : ℕ}
variable (svd : SvdFn α (k + 1) n) (sqrt rsqrt : α → α) (algo : Algo) (lr : α)

/-- After any sketched update — whatever the SVD returned — the last root-eigenvalue is `sqrt 0`, so
the last sketch row `e_last • P_last` is zero (the code deflates by the smallest singular value). -/
theorem last_row_zero_step (hsqrt : sqrt 0 = 0) (st : FdState α k n) (g : Vec α n) (j : Fin n) :
    (fdUpdate svd sqrt rsqrt algo lr st g).e (Fin.last k) = 0 ∧
    sketchRows (fdUpdate svd sqrt rsqrt algo lr st g) (Fin.last k) j = 0 :=
  ⟨(fdUpdate_e_last svd sqrt rsqrt algo lr st g).trans hsqrt,
    fdUpdate_last_row svd sqrt rsqrt algo lr hsqrt st g j⟩

/-- For every history (including the empty one) from `_fd_init_fn`, the last sketch row is zero. -/
theorem last_row_zero (hsqrt : sqrt 0 = 0) (δ : α) (gs : List (Vec α n)) (j : Fin n) :
    sketchRows (fdRun svd sqrt rsqrt algo lr δ gs) (Fin.last k) j = 0 := by
  rw [fdRun_eq]
  exact fdRunFrom_last_row svd sqrt rsqrt algo lr hsqrt gs (fdInit k n δ) (sketchRows_fdInit δ _) j

/-- `alpha_T = δ + alpha_update_factor · Σ_t ρ_t`, `ρ_t = s_t[-1]²` the escaped mass of step `t`. -/
theorem alpha_recurrence (δ : α) (gs : List (Vec α n)) :
    (fdRun svd sqrt rsqrt algo lr δ gs).alpha
      = δ + alphaFactor algo * (fdRhosFrom svd sqrt rsqrt algo lr (fdInit k n δ) gs).sum := by
  simpa [fdRun, fdInit] using fdRunFrom_alpha svd sqrt rsqrt algo lr gs (fdInit k n δ)

/-- S-AdaGrad: `α_T = δ + Σ_t ρ_t`. -/
theorem sada_alpha (δ : α) (gs : List (Vec α n)) :
    (fdRun svd sqrt rsqrt .sAda lr δ gs).alpha
      = δ + (fdRhosFrom svd sqrt rsqrt .sAda lr (fdInit k n δ) gs).sum := by
  rw [alpha_recurrence]; simp [alphaFactor]

/-- RFD-SON: `α_T = δ + ½ Σ_t ρ_t`. -/
theorem rfd_alpha (δ : α) (gs : List (Vec α n)) :
    (fdRun svd sqrt rsqrt .rfdSon lr δ gs).alpha
      = δ + (fdRhosFrom svd sqrt rsqrt .rfdSon lr (fdInit k n δ) gs).sum / 2 := by
  rw [alpha_recurrence]; simp only [alphaFactor]; ring

/-- FD-SON and Ada-FD never change `alpha`. -/
theorem fdson_adafd_alpha_const (h : algo = .fdSon ∨ algo = .adaFd) (δ : α) (gs : List (Vec α n)) :
    (fdRun svd sqrt rsqrt algo lr δ gs).alpha = δ := by
  rw [alpha_recurrence]; rcases h with rfl | rfl <;> simp [alphaFactor]

end Sketched

section Bracket
variable {R : Type} [Field R] [LinearOrder R] [IsStrictOrderedRing R] [StarRing R] [TrivialStar R]
  [StarOrderedRing R]
variable {k n : ℕ}
variable (svd : SvdFn R (k + 1) n) (sqrt rsqrt : R → R) (algo : Algo) (lr : R)

/-- One-step frequent-directions bracket. If the sketch `G = BᵀB` of a state whose last row is zero
brackets `C` (`G ≤ C ≤ G + a·I` in the Loewner order), then after one `_fd_update_fn` with any SVD
meeting its specification the new sketch brackets `C + g̃ g̃ᵀ` with slack `a + ρ`, where `g̃` is the
scaled gradient written into the last row and `ρ = s[-1]²`. -/
theorem oco_bracket_step (hsq : ∀ x, 0 ≤ x → sqrt x * sqrt x = x) (st : FdState R k n) (g : Vec R n)
    (h0 : ∀ j, sketchRows st (Fin.last k) j = 0)
    (h : SvdSpec (fdB sqrt rsqrt algo lr st g) (svd (fdB sqrt rsqrt algo lr st g)))
    (C : Matrix (Fin n) (Fin n) R) (a : R)
    (hlo : (C - gram (sketchRows st)).PosSemidef)
    (hhi : (gram (sketchRows st) + a • (1 : Matrix (Fin n) (Fin n) R) - C).PosSemidef) :
    (C + vecMulVec (gradInput (sketchFactor sqrt rsqrt algo (st.t + 1) lr) g)
          (gradInput (sketchFactor sqrt rsqrt algo (st.t + 1) lr) g)
        - gram (sketchRows (fdUpdate svd sqrt rsqrt algo lr st g))).PosSemidef ∧
    (gram (sketchRows (fdUpdate svd sqrt rsqrt algo lr st g))
        + (a + fdRho svd sqrt rsqrt algo lr st g) • (1 : Matrix (Fin n) (Fin n) R)
        - (C + vecMulVec (gradInput (sketchFactor sqrt rsqrt algo (st.t + 1) lr) g)
            (gradInput (sketchFactor sqrt rsqrt algo (st.t + 1) lr) g))).PosSemidef ∧
    0 ≤ fdRho svd sqrt rsqrt algo lr st g :=
  ⟨(fd_bracket_step svd sqrt rsqrt algo lr hsq st g h0 h C a hlo hhi).1,
   (fd_bracket_step svd sqrt rsqrt algo lr hsq st g h0 h C a hlo hhi).2,
   fdRho_nonneg svd sqrt rsqrt algo lr st g⟩

/-- History bracket: for every gradient sequence from `_fd_init_fn`, with an SVD meeting its
specification on the matrices it is called with, `BᵀB ≤ Σ g̃_t g̃_tᵀ ≤ BᵀB + (Σ_t ρ_t)·I`. -/
theorem oco_bracket (hsq : ∀ x, 0 ≤ x → sqrt x * sqrt x = x) (δ : R) (gs : List (Vec R n))
    (hs : SvdAlong svd sqrt rsqrt algo lr (fdInit k n δ) gs) :
    (inputsCov (fdInputsFrom svd sqrt rsqrt algo lr (fdInit k n δ) gs)
        - gram (sketchRows (fdRun svd sqrt rsqrt algo lr δ gs))).PosSemidef ∧
    (gram (sketchRows (fdRun svd sqrt rsqrt algo lr δ gs))
        + (fdRhosFrom svd sqrt rsqrt algo lr (fdInit k n δ) gs).sum • (1 : Matrix (Fin n) (Fin n) R)
        - inputsCov (fdInputsFrom svd sqrt rsqrt algo lr (fdInit k n δ) gs)).PosSemidef := by
  have := fd_bracket_from svd sqrt rsqrt algo lr hsq gs (fdInit k n δ)
    (sketchRows_fdInit δ _) hs 0 0 (by rw [gram_fdInit]; simpa using PosSemidef.zero)
    (by rw [gram_fdInit]; simpa using PosSemidef.zero)
  simpa [fdRun] using this

/-- S-AdaGrad in the code's own quantities: the sketch plus the *dynamic diagonal* `α_T − δ` dominates
the exact second moment `Σ g_t g_tᵀ`, which dominates the sketch. -/
theorem sada_bracket (hsq : ∀ x, 0 ≤ x → sqrt x * sqrt x = x) (δ : R) (gs : List (Vec R n))
    (hs : SvdAlong svd sqrt rsqrt .sAda lr (fdInit k n δ) gs) :
    (inputsCov gs - gram (sketchRows (fdRun svd sqrt rsqrt .sAda lr δ gs))).PosSemidef ∧
    (gram (sketchRows (fdRun svd sqrt rsqrt .sAda lr δ gs))
        + ((fdRun svd sqrt rsqrt .sAda lr δ gs).alpha - δ) • (1 : Matrix (Fin n) (Fin n) R)
        - inputsCov gs).PosSemidef := by
  have hb := oco_bracket svd sqrt rsqrt .sAda lr hsq δ gs hs
  rw [fdInputsFrom_sAda] at hb
  have hα : (fdRun svd sqrt rsqrt .sAda lr δ gs).alpha - δ
      = (fdRhosFrom svd sqrt rsqrt .sAda lr (fdInit k n δ) gs).sum := by
    rw [sada_alpha]; ring
  rw [hα]
  exact hb

end Bracket

section Lossless
variable {R : Type} [Field R] [LinearOrder R] [IsStrictOrderedRing R] [StarRing R] [TrivialStar R]
  [StarOrderedRing R]
variable {k n : ℕ}
variable (svd : SvdFn R (k + 1) n) (sqrt rsqrt : R → R) (lr : R)

/-- Matrix form of the code's preconditioned direction (the `else` branch of `_fd_update_fn`: RFD-SON, FD-SON with
`inv = 1/x`, S-AdaGrad with `inv = rsqrt`): `update = (Pᵀ diag(safe_inv(α + s²)) P + safe_inv(α) (I − PᵀP)) g`. -/
theorem direction_matrix_form {m : ℕ} (inv : R → R) (alpha : R) (P : Mat R m n) (s2 : Vec R m) (g : Vec R n) :
    precondGeneric inv alpha P s2 g = appliedMatrix inv alpha P s2 *ᵥ g :=
  precondGeneric_eq inv alpha P s2 g

/-- **Lossless S-AdaGrad is full-matrix AdaGrad** (ext). Let the whole history `gs ++ [g]` lie in the row space of a
matrix `W` with fewer rows than the sketch size (history rank < sketch size), `δ > 0`, and let the kernels meet their
specifications (`sqrt x ≥ 0`, `sqrt x ² = x` for `x ≥ 0`; `rsqrt x > 0`, `rsqrt x ² · x = 1` for `x > 0`; `SvdSpec` on
every matrix the SVD is called with). Then no mass ever escapes (`ρ_t = 0` for every step), `alpha` stays `δ`, the sketch
is exact (`BᵀB = Σ g_t g_tᵀ`), and the last step is `w ← w − lr · X g` with `X` positive semidefinite and
`X · X · (δ I + Σ_{t ≤ T} g_t g_tᵀ) = I`: `X` is the full-matrix AdaGrad preconditioner `(δI + Σ ggᵀ)^(-1/2)`.
Every prefix of such a history satisfies the same hypotheses, so this holds for every iterate. -/
theorem sada_lossless (hsq : ∀ x, 0 ≤ x → sqrt x * sqrt x = x) (hsq0 : ∀ x, 0 ≤ x → 0 ≤ sqrt x)
    (hrs : ∀ x, 0 < x → 0 < rsqrt x ∧ rsqrt x * rsqrt x * x = 1)
    (δ : R) (hδ : 0 < δ) (gs : List (Vec R n)) (g : Vec R n)
    (hs : SvdAlong svd sqrt rsqrt .sAda lr (fdInit k n δ) gs)
    (hlast : SvdSpec (fdB sqrt rsqrt .sAda lr (fdRun svd sqrt rsqrt .sAda lr δ gs) g)
      (svd (fdB sqrt rsqrt .sAda lr (fdRun svd sqrt rsqrt .sAda lr δ gs) g)))
    {r : ℕ} (hr : r < k + 1) (W : Matrix (Fin r) (Fin n) R)
    (hW : ∀ x ∈ g :: gs, ∃ c : Fin r → R, x = c ᵥ* W) :
    (∀ ρ ∈ fdRhosFrom svd sqrt rsqrt .sAda lr (fdInit k n δ) gs, ρ = 0) ∧
    fdRho svd sqrt rsqrt .sAda lr (fdRun svd sqrt rsqrt .sAda lr δ gs) g = 0 ∧
    (fdUpdate svd sqrt rsqrt .sAda lr (fdRun svd sqrt rsqrt .sAda lr δ gs) g).alpha = δ ∧
    gram (sketchRows (fdUpdate svd sqrt rsqrt .sAda lr (fdRun svd sqrt rsqrt .sAda lr δ gs) g))
      = inputsCov gs + vecMulVec g g ∧
    ∃ X : Matrix (Fin n) (Fin n) R,
      (∀ j, (fdUpdate svd sqrt rsqrt .sAda lr (fdRun svd sqrt rsqrt .sAda lr δ gs) g).w j
        = (fdRun svd sqrt rsqrt .sAda lr δ gs).w j - lr * (X *ᵥ g) j) ∧
      X.PosSemidef ∧
      X * X * (δ • (1 : Matrix (Fin n) (Fin n) R) + (inputsCov gs + vecMulVec g g)) = 1 := by
  have hinit0 : ∀ j, sketchRows (fdInit k n δ) (Fin.last k) j = 0 := sketchRows_fdInit δ _
  have hinitS : InSpan W (fdInit k n δ) := ⟨0, by rw [gram_fdInit, Matrix.mul_zero, Matrix.zero_mul]⟩
  obtain ⟨hρs, hspan, hgram⟩ := fd_lossless_from svd sqrt rsqrt .sAda lr hsq hr W gs (fdInit k n δ)
    hinit0 hinitS hs (fun x hx => hW x (List.mem_cons_of_mem _ hx))
  rw [fdInputsFrom_sAda, gram_fdInit, zero_add] at hgram
  have hst0 : ∀ j, sketchRows (fdRunFrom svd sqrt rsqrt .sAda lr (fdInit k n δ) gs) (Fin.last k) j = 0 :=
    fdRunFrom_last_row svd sqrt rsqrt .sAda lr (sqrt_zero_of_spec sqrt hsq) gs (fdInit k n δ) hinit0
  have hα : (fdRunFrom svd sqrt rsqrt .sAda lr (fdInit k n δ) gs).alpha = δ := by
    rw [fdRunFrom_alpha, List.sum_eq_zero hρs, mul_zero, add_zero]
    rfl
  obtain ⟨h1, h2, h3, X, h4, h5, h6⟩ := sada_lossless_step svd sqrt rsqrt lr hsq hrs hr W
    (fdRunFrom svd sqrt rsqrt .sAda lr (fdInit k n δ) gs) g hspan hst0 (by rw [hα]; exact hδ)
    (hW g (List.mem_cons_self ..)) hlast
  rw [hα] at h2 h6
  rw [hgram] at h3 h6
  exact ⟨hρs, h1, h2, h3, X, h4, h5, h6⟩

end Lossless

/-! ### non-vacuity -/

/-- the kernel hypotheses are satisfiable: `Real.sqrt` -/
example : Real.sqrt 0 = 0 ∧ ∀ x : ℝ, 0 ≤ x → Real.sqrt x * Real.sqrt x = x :=
  ⟨Real.sqrt_zero, fun _ hx => Real.mul_self_sqrt hx⟩

/-- `SvdAlong` (hence the hypotheses of `oco_bracket`, `sada_bracket`, `oco_bracket_step`) holds for the
history `[(3,4)]`, `δ = 1/2`. -/
example : SvdAlong exSvd Real.sqrt (fun x => 1 / Real.sqrt x) .sAda (1 / 4 : ℝ)
    (fdInit 1 2 (1 / 2 : ℝ)) [![3, 4]] :=
  ⟨exSvd_spec, trivial⟩

/-- closed forms on a concrete rational history (`rsqrt` replaced by a rational stand-in) -/
example : (ogdRun (fun x : ℚ => 1 / x) (1 / 2) 1 [![1, -2], ![4, 0]]).w 0 = -(1 / 2 * 1 * (1 / 2) + 1 / 2 * 4 * (1 / 3)) := by
  rw [(ogd_closed_form (fun x : ℚ => 1 / x) (1 / 2) 1 [![1, -2], ![4, 0]]).2 0]
  simp [Finset.sum_range_succ, hist]
  norm_num

/-- the `rsqrt` specification of `sada_lossless` is met by `1 / Real.sqrt` -/
example : ∀ x : ℝ, 0 < x → 0 < 1 / Real.sqrt x ∧ 1 / Real.sqrt x * (1 / Real.sqrt x) * x = 1 :=
  exRsqrt_spec

/-- the rank hypothesis of `sada_lossless` on the history `[(3,4)]` (sketch size 2): it lies in the row space of the
one-row matrix `W = [[3,4]]`, `r = 1 < 2` -/
example : ∀ x ∈ [(![3, 4] : Vec ℝ 2)], ∃ c : Fin 1 → ℝ, x = c ᵥ* (!![3, 4] : Matrix (Fin 1) (Fin 2) ℝ) :=
  exHist_mem_rowSpace

/-- `sada_lossless` instantiated: first step of S-AdaGrad (sketch size 2, dimension 2, `δ = 1/2`, gradient `(3,4)`) with the
exact SVD `exSvd`: the applied matrix is a PSD inverse square root of `½ I + g gᵀ`. -/
example : ∃ X : Matrix (Fin 2) (Fin 2) ℝ, X.PosSemidef ∧
    X * X * ((1 / 2 : ℝ) • (1 : Matrix (Fin 2) (Fin 2) ℝ) + (inputsCov [] + vecMulVec ![3, 4] ![3, 4])) = 1 := by
  obtain ⟨-, -, -, -, X, -, h5, h6⟩ := sada_lossless exSvd Real.sqrt (fun x => 1 / Real.sqrt x) (1 / 4 : ℝ)
    (fun _ hx => Real.mul_self_sqrt hx) (fun x _ => Real.sqrt_nonneg x)
    exRsqrt_spec (1 / 2 : ℝ) (by norm_num) [] ![3, 4] trivial exSvd_spec (r := 1) (by norm_num)
    (!![3, 4] : Matrix (Fin 1) (Fin 2) ℝ) exHist_mem_rowSpace
  exact ⟨X, h5, h6⟩

end PrecondVerif.C16
